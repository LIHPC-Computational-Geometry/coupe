import CoupeModel.Model.Hilbert
import CoupeModel.Model.HilbertQuantise
import CoupeModel.Proofs.Hilbert
import CoupeModel.Proofs.HilbertCode
import CoupeModel.Proofs.HilbertInterleave

/-!
# C08 — the Hilbert index is a bijective, continuous curve at every accepted order

Property theorems only (lemmas: `Proofs/Hilbert.lean`, `Proofs/HilbertCode.lean`,
`Proofs/HilbertInterleave.lean`).  Three groups:

* the *table machines* defined by `BASE_PATTERN`/`CONFIGURATION` (2-D) and the 96-entry
  table (3-D), as extracted into `Gen/HilbertTables.lean`: bijection with explicit
  inverse, parent law, continuity – for **every** order `k` and every start state
  (induction on `k`; the table facts are decided by the kernel, `corner_tbl`);
* the *code mirrors* (`fast2` = `encode_2d`, `slow2U` = `encode_2d_slow`, `enc3U` =
  `encode_3d`, `pdepFallback` with the extracted masks) equal the table machines on the
  accepted orders (`MAX_ORDER_2D` = 32, `MAX_ORDER_3D` = 21 as extracted, where `u64` matters), so the three laws
  transfer to the functions the code calls;
* the regression witness of defect D6 (`fast2Prefix`).

Quantisation (`segment_to_segment`) is floating point: only its statement is given
(`quantise_statement`), it is covered by the correspondence run and the oracle, not proved.
-/

namespace Coupe.Hilbert
open Coupe.Gen.HilbertTables

/-! ## Table facts (decided on the extracted tables) -/

/-- Every row of `BASE_PATTERN` is a permutation of the four quadrant ranks. -/
theorem base_perm : ∀ c, c < 4 → (BASE_PATTERN.getD c []).Perm [0, 1, 2, 3] := by decide

/-- All table facts of the 2-D machine: next states stay in range (no table index can
panic), each row has the computed inverse, entry/exit corners are stable under
refinement and consecutive quadrants are glued corner to corner across one edge. -/
theorem corner_tbl : Valid m2 := m2_valid

/-- The same facts for the 12-state, 96-entry 3-D table. -/
theorem corner_tbl3 : Valid m3 := m3_valid

/-! ## 2-D machine, every order -/

/-- Bijection on `k`-digit base-4 strings, every length and start state: `unrun` is a
two-sided inverse of `run`, both preserve length and the digit range. -/
theorem slow2_bij (c : Nat) (hc : c < 4) (ds : List Nat) (hd : ∀ d ∈ ds, d < 4) :
    ((run m2 c ds).1.length = ds.length ∧ (∀ r ∈ (run m2 c ds).1, r < 4) ∧
      (unrun m2 c (run m2 c ds).1).1 = ds) ∧
    ((unrun m2 c ds).1.length = ds.length ∧ (∀ q ∈ (unrun m2 c ds).1, q < 4) ∧
      (run m2 c (unrun m2 c ds).1).1 = ds) :=
  run_bij m2_valid hc hd

/-- Prefix property: the index digits of a prefix do not depend on what follows. -/
theorem slow2_parent (c : Nat) (ds : List Nat) (d : Nat) :
    (run m2 c (ds ++ [d])).1 = (run m2 c ds).1 ++ [base2 (run m2 c ds).2 d] := by
  rw [run_append]
  rfl

theorem dec_enc2 {c k x y : Nat} (hc : c < 4) (hx : x < 2 ^ k) (hy : y < 2 ^ k) :
    dec m2 c k (enc2 c k x y) = (x, y, 0) := by
  have h := dec_ofDigits_run m2_valid hc (zdigits2_lt k x y)
  rwa [zdigits2_length, cellOf_zdigits2, Nat.mod_eq_of_lt hx, Nat.mod_eq_of_lt hy] at h

/-- Cells ↔ indices at every order `k` and start state: `enc2 c k` maps the
`2^k × 2^k` grid into `[0, 4^k)`, `dec2 c k` maps `[0, 4^k)` into the grid, and they are
inverse to each other. -/
theorem enc2_bij (c k : Nat) (hc : c < 4) :
    (∀ x y, x < 2 ^ k → y < 2 ^ k → enc2 c k x y < 4 ^ k ∧ dec2 c k (enc2 c k x y) = (x, y)) ∧
    (∀ h, h < 4 ^ k → (dec2 c k h).1 < 2 ^ k ∧ (dec2 c k h).2 < 2 ^ k ∧
      enc2 c k (dec2 c k h).1 (dec2 c k h).2 = h) := by
  constructor
  · intro x y hx hy
    have hl := ofDigits_run_lt m2_valid hc (zdigits2_lt k x y)
    rw [zdigits2_length] at hl
    exact ⟨hl, by rw [dec2, dec_enc2 hc hx hy]⟩
  · intro h hh
    have hu := (unrun_spec m2_valid _ c hc (digits_lt m2_valid.R_pos k h)).1
    have hz := zdigits2_cellOf _ hu
    have hlt := cellOf_lt m2_valid _ hu
    have he := (ofDigits_run_unrun m2_valid hc k h).trans (Nat.mod_eq_of_lt hh)
    rw [unrun_length, digits_length] at hz hlt
    rw [← hz] at he
    exact ⟨hlt.1, hlt.2.1, he⟩

/-- Parent law: dropping the 2 low bits of the index of `(x, y)` at order `k + 1` gives
the index of the parent cell `(x/2, y/2)` at order `k`. -/
theorem enc2_parent (c k x y : Nat) (hc : c < 4) :
    enc2 c (k + 1) x y / 4 = enc2 c k (x / 2) (y / 2) := by
  rw [enc2, zdigits2_succ]
  exact ofDigits_run_snoc m2_valid hc (zdigits2_lt k _ _) (by show _ < 4; omega)

/-- Continuity of the decoder: consecutive indices are cells at L1 distance exactly 1
(every order, every start state). -/
theorem slow2_continuous (k c h : Nat) (hc : c < 4) (hh : h + 1 < 4 ^ k) :
    l1 (dec m2 c k h) (dec m2 c k (h + 1)) = 1 :=
  dec_continuous m2_valid k c h hc hh

/-- Continuity on cells: if the index of `(x', y')` follows the index of `(x, y)` the two
cells share an edge. -/
theorem enc2_continuous (c k x y x' y' : Nat) (hc : c < 4) (hx : x < 2 ^ k) (hy : y < 2 ^ k)
    (hx' : x' < 2 ^ k) (hy' : y' < 2 ^ k) (h : enc2 c k x' y' = enc2 c k x y + 1) :
    dist1 x x' + dist1 y y' = 1 := by
  have hlt := ((enc2_bij c k hc).1 x' y' hx' hy').1
  have hcont := slow2_continuous k c (enc2 c k x y) hc (by omega)
  rw [← h, dec_enc2 hc hx hy, dec_enc2 hc hx' hy'] at hcont
  exact hcont

/-! ## 2-D code = 2-D machine at the accepted orders -/

/-- `pdep_u64_fallback` with the masks of `encode_2d` interleaves as the machine assumes:
quadrant `i` of `zorder` is `2·bit_i(x) + bit_i(y)` for every `i < 32`. -/
theorem interleave_spec (k x y : Nat) (hk : k ≤ MAX_ORDER_2D) :
    digits 4 k (zorder2 x y) = zdigits2 k x y := by
  rw [zorder2, pdep_stride (by decide) lowbits_mask2x, pdep_stride (by decide) lowbits_mask2,
    Nat.pow_zero, Nat.one_mul, Nat.pow_one, spread_or2, digits_il2 32 k x y hk]

/-- The same for the three masks of `encode_3d` (`z < 2^21`: the mask `0x9249…` has a
22nd bit at position 63). -/
theorem interleave_spec3 (k x y z : Nat) (hk : k ≤ MAX_ORDER_3D) (hz : z < 2 ^ MAX_ORDER_3D) :
    digits 8 k (zorder3 x y z) = zdigits3 k x y z := by
  rw [zorder3, pdep_stride (by decide) lowbits_mask3x, pdep_stride (by decide) lowbits_mask3y,
    pdep_stride (by decide) lowbits_mask3, Nat.pow_zero, Nat.one_mul, Nat.pow_one,
    show (2 : Nat) ^ 2 = 4 from rfl, spread_succ_of_lt 3 21 z hz, spread_or3, digits_il3 21 k x y z hk]

/-- `encode_2d_slow` is the table machine on the quadrant digits of its argument. -/
theorem slow2U_eq_run (z order c : Nat) (ho : order ≤ MAX_ORDER_2D) (hc : c < 4) :
    slow2U z order c = (ofDigits 4 (run m2 c (digits 4 order z)).1, (run m2 c (digits 4 order z)).2) :=
  slow2U_eq (show order ≤ 32 from ho) hc z

/-- The table-driven `encode_2d` equals the slow encoder on the interleaved bits, and
hence the machine-level `enc2`, at every order ≤ 32 (the accepted range). -/
theorem fast2_eq_slow2 (x y order : Nat) (ho : order ≤ MAX_ORDER_2D)
    (hx : x < 2 ^ order) (hy : y < 2 ^ order) :
    fast2 x y order = some (slow2U (zorder2 x y) order 0).1 ∧
    fast2 x y order = some (enc2 0 order x y) := by
  replace ho : order ≤ 32 := ho
  rw [fast2, if_pos ⟨by omega, hx, hy⟩, fast2Z_eq ho, slow2U_eq ho (by decide), runN, enc2, m2_R,
    interleave_spec order x y ho]
  exact ⟨rfl, rfl⟩

/-- Regression witness of D6: the expression `encode_2d` ended with before the repair
loses the top bits of the index at order 31 (cell `(2^31 - 1, 0)`) and at order 32, where
the distinct cells `(0, 0)` and `(0, 2^31)` received the same index. -/
theorem fast2_prefix_overflow_31 :
    fast2Prefix (2 ^ 31 - 1) 0 31 ≠ some (slow2U (zorder2 (2 ^ 31 - 1) 0) 31 0).1 ∧
    fast2Prefix (2 ^ 32 - 1) 0 32 ≠ some (slow2U (zorder2 (2 ^ 32 - 1) 0) 32 0).1 ∧
    fast2Prefix 0 0 32 = fast2Prefix 0 (2 ^ 31) 32 := by
  decide +kernel

/-! ## 3-D machine, every order; code = machine for orders ≤ 21 -/

theorem run3_bij (c : Nat) (hc : c < 12) (ds : List Nat) (hd : ∀ d ∈ ds, d < 8) :
    ((run m3 c ds).1.length = ds.length ∧ (∀ r ∈ (run m3 c ds).1, r < 8) ∧
      (unrun m3 c (run m3 c ds).1).1 = ds) ∧
    ((unrun m3 c ds).1.length = ds.length ∧ (∀ q ∈ (unrun m3 c ds).1, q < 8) ∧
      (run m3 c (unrun m3 c ds).1).1 = ds) :=
  run_bij m3_valid hc hd

theorem dec_enc3 {c k x y z : Nat} (hc : c < 12) (hx : x < 2 ^ k) (hy : y < 2 ^ k) (hz : z < 2 ^ k) :
    dec m3 c k (enc3 c k x y z) = (x, y, z) := by
  have h := dec_ofDigits_run m3_valid hc (zdigits3_lt k x y z)
  rwa [zdigits3_length, cellOf_zdigits3, Nat.mod_eq_of_lt hx, Nat.mod_eq_of_lt hy,
    Nat.mod_eq_of_lt hz] at h

/-- Cells ↔ indices in 3-D at every order `k` and start state. -/
theorem enc3_bij (c k : Nat) (hc : c < 12) :
    (∀ x y z, x < 2 ^ k → y < 2 ^ k → z < 2 ^ k →
      enc3 c k x y z < 8 ^ k ∧ dec3 c k (enc3 c k x y z) = (x, y, z)) ∧
    (∀ h, h < 8 ^ k → (dec3 c k h).1 < 2 ^ k ∧ (dec3 c k h).2.1 < 2 ^ k ∧ (dec3 c k h).2.2 < 2 ^ k ∧
      enc3 c k (dec3 c k h).1 (dec3 c k h).2.1 (dec3 c k h).2.2 = h) := by
  constructor
  · intro x y z hx hy hz
    have hl := ofDigits_run_lt m3_valid hc (zdigits3_lt k x y z)
    rw [zdigits3_length] at hl
    exact ⟨hl, by rw [dec3, dec_enc3 hc hx hy hz]⟩
  · intro h hh
    have hu := (unrun_spec m3_valid _ c hc (digits_lt m3_valid.R_pos k h)).1
    have hz := zdigits3_cellOf _ hu
    have hlt := cellOf_lt m3_valid _ hu
    have he := (ofDigits_run_unrun m3_valid hc k h).trans (Nat.mod_eq_of_lt hh)
    rw [unrun_length, digits_length] at hz hlt
    rw [← hz] at he
    exact ⟨hlt.1, hlt.2.1, hlt.2.2, he⟩

/-- Parent law in 3-D: dropping the 3 low bits gives the index of `(x/2, y/2, z/2)`. -/
theorem enc3_parent (c k x y z : Nat) (hc : c < 12) :
    enc3 c (k + 1) x y z / 8 = enc3 c k (x / 2) (y / 2) (z / 2) := by
  rw [enc3, zdigits3_succ]
  exact ofDigits_run_snoc m3_valid hc (zdigits3_lt k _ _ _) (by show _ < 8; omega)

/-- Continuity in 3-D: consecutive indices are cells sharing a face (every order, every state). -/
theorem enc3_continuous (k c h : Nat) (hc : c < 12) (hh : h + 1 < 8 ^ k) :
    l1 (dec3 c k h) (dec3 c k (h + 1)) = 1 :=
  dec_continuous m3_valid k c h hc hh

/-- Continuity on 3-D cells. -/
theorem enc3_continuous_cells (c k x y z x' y' z' : Nat) (hc : c < 12)
    (hx : x < 2 ^ k) (hy : y < 2 ^ k) (hz : z < 2 ^ k)
    (hx' : x' < 2 ^ k) (hy' : y' < 2 ^ k) (hz' : z' < 2 ^ k)
    (h : enc3 c k x' y' z' = enc3 c k x y z + 1) :
    dist1 x x' + dist1 y y' + dist1 z z' = 1 := by
  have hlt := ((enc3_bij c k hc).1 x' y' z' hx' hy' hz').1
  have hcont := enc3_continuous k c (enc3 c k x y z) hc (by omega)
  rw [← h, dec3, dec3, dec_enc3 hc hx hy hz, dec_enc3 hc hx' hy' hz'] at hcont
  exact hcont

/-- `encode_3d` equals the 3-D machine at every order ≤ 21 (the accepted range). -/
theorem enc3U_eq_enc3 (x y z order : Nat) (ho : order ≤ MAX_ORDER_3D)
    (hx : x < 2 ^ order) (hy : y < 2 ^ order) (hz : z < 2 ^ order) :
    enc3U x y z order = some (enc3 0 order x y z) := by
  replace ho : order ≤ 21 := ho
  have hz21 : z < 2 ^ 21 := Nat.lt_of_lt_of_le hz (Nat.pow_le_pow_right (by decide) ho)
  rw [enc3U, if_pos ⟨by omega, hx, hy, hz⟩, enc3Loop_spec ho, runN, enc3, show m3.R = 8 from rfl, interleave_spec3 order x y z ho hz21]

/-! ## Quantisation (statement only) -/

/-- What C08 claims about `segment_to_segment(min, max, order)` for a finite interval:
the factor loop terminates, every value of `[min, max]` is mapped into `[0, 2^order - 1]`,
and the mapping is monotone.  **Not proved**: `Float` is opaque to the kernel, so this
clause is covered by the correspondence run (bit-exact comparison of `segFactor`/`segCell`
with the implementation) and by the oracle only.  The correspondence run found the
termination part FALSE of the code before fix 524abd8 when `0 < max - min ≤ 2^(order-1024)`
(`n / width` overflowed to `+∞` and `nextafter(+∞, 0) = +∞`: `segFactorPrefix` = `none`,
the Rust loop spun forever); regression case `corpus/C08/seg_tiny_width_hang.case`. -/
def quantise_statement : Prop :=
  ∀ (min max : Float) (order : Nat), order ≤ MAX_ORDER_2D →
    min.isFinite = true → max.isFinite = true → min ≤ max →
    ∃ f, segFactor min max order = some f ∧
      (∀ v, min ≤ v → v ≤ max → ∃ c, segCell min max f v = some c ∧ c ≤ 2 ^ order - 1) ∧
      (∀ v v' c c', min ≤ v → v ≤ v' → v' ≤ max →
        segCell min max f v = some c → segCell min max f v' = some c' → c ≤ c')

/-! ## Non-vacuity -/

example : fast2 3 1 2 = some 12 ∧ enc2 0 2 3 1 = 12 ∧ dec2 0 2 12 = (3, 1) := by decide +kernel
example : enc2 0 2 3 1 = enc2 0 2 3 2 + 1 ∧ dist1 3 3 + dist1 2 1 = 1 := by decide
example : enc3U 5 3 6 3 = some 400 ∧ enc3 0 3 5 3 6 = 400 ∧ dec3 0 3 400 = (5, 3, 6) := by decide +kernel
example : enc2 0 3 5 6 / 4 = enc2 0 2 2 3 := by decide

end Coupe.Hilbert

#print axioms Coupe.Hilbert.base_perm
#print axioms Coupe.Hilbert.corner_tbl
#print axioms Coupe.Hilbert.corner_tbl3
#print axioms Coupe.Hilbert.slow2_bij
#print axioms Coupe.Hilbert.slow2_parent
#print axioms Coupe.Hilbert.dec_enc2
#print axioms Coupe.Hilbert.enc2_bij
#print axioms Coupe.Hilbert.enc2_parent
#print axioms Coupe.Hilbert.slow2_continuous
#print axioms Coupe.Hilbert.enc2_continuous
#print axioms Coupe.Hilbert.interleave_spec
#print axioms Coupe.Hilbert.interleave_spec3
#print axioms Coupe.Hilbert.slow2U_eq_run
#print axioms Coupe.Hilbert.fast2_eq_slow2
#print axioms Coupe.Hilbert.fast2_prefix_overflow_31
#print axioms Coupe.Hilbert.run3_bij
#print axioms Coupe.Hilbert.dec_enc3
#print axioms Coupe.Hilbert.enc3_bij
#print axioms Coupe.Hilbert.enc3_parent
#print axioms Coupe.Hilbert.enc3_continuous
#print axioms Coupe.Hilbert.enc3_continuous_cells
#print axioms Coupe.Hilbert.enc3U_eq_enc3
