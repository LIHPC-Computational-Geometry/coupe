import CoupeModel.Gen.IntFns
import CoupeModel.Model.ArcSwap
import CoupeModel.Props.C05c

/-!
# GenTieArc — ArcSwap's part-weight arithmetic is the arithmetic regenerated from the source

`tools/extract_intfns.py` regenerates on every run, from `src/algorithms/arc_swap.rs`, into
`Gen/IntFns.lean` (rendered for an UNSIGNED weight type: a checked `-` that would go below
zero is `none`, the overflow panic):

* `arcswap_balance_reject weight pw_target max_target` – `let target_part_weight = …` and the
  test in front of `bad_balance_count += 1; continue` (1 = rejected);
* `arcswap_move_weights pw_initial pw_target weight` – the two updates of the task's own array
  when a move is made;
* `arcswap_thread_max_room pw max_part_weight` – the test and the two differences around the f64 share
  in the computation of `thread_max_pws`;
* `arcswap_task_report thread_pw pw` – `(gains[p], losses[p])` a task reports at the end of a pass;
* `arcswap_merge_update pw gain loss` – `*pw += gain; *pw -= loss`;
* `arcswap_metadata_fields` – the fields of `struct Metadata` (`Metadata::merge` is locked as their
  field-wise sum).

The frame (loops, `zip` chains, zero-initialised vectors, a reduce that only adds) is locked as
text by the translator.  The theorems tie the hand-written model (`decideMove`, the `store` step,
`taskGain`, `taskLoss`, `mergePw` of `Model/ArcSwap.lean`, over `Int`) to these definitions and
carry C05c's range theorem over to the generated code: in every reachable state of the model the
generated end-of-pass update, run on the reduced gains and losses, does not panic and returns
the true load of the part — for an unsigned weight type, which is the harder case.
-/

namespace Coupe.GenTieArc
open Coupe.Gen.IntFns Coupe.ArcSwap

/-- The generated balance test is the model's (`decideMove`: `tmax[tgt] < w[v] + t.pw[tgt]`). -/
theorem balance_reject_tie (weight pwTarget maxTarget : Nat) :
    (arcswap_balance_reject weight pwTarget maxTarget = 1) ↔
      ((maxTarget : Int) < (weight : Int) + (pwTarget : Int)) := by
  unfold arcswap_balance_reject
  simp only
  split <;> omega

theorem balance_reject_01 (weight pwTarget maxTarget : Nat) :
    arcswap_balance_reject weight pwTarget maxTarget = 0 ∨ arcswap_balance_reject weight pwTarget maxTarget = 1 := by
  unfold arcswap_balance_reject
  simp only
  split <;> simp

/-- The generated updates of a move are the model's `addAt (addAt pw ip (-w)) tgt w` on the two
entries concerned; the subtraction panics exactly when the task's entry is below the weight. -/
theorem move_weights_tie (pwInitial pwTarget weight : Nat) :
    (weight ≤ pwInitial → arcswap_move_weights pwInitial pwTarget weight = some (pwInitial - weight, pwTarget + weight)) ∧
    (pwInitial < weight → arcswap_move_weights pwInitial pwTarget weight = none) := by
  unfold arcswap_move_weights csub
  constructor <;> intro h
  · simp [h]
  · have : ¬ weight ≤ pwInitial := by omega
    simp [this]

/-- The model's `store` step changes exactly those two entries by those amounts. -/
theorem model_move_entries (pw : List Int) (ip tgt : Nat) (w : Int) (hne : ip ≠ tgt)
    (hip : ip < pw.length) (htg : tgt < pw.length) :
    (addAt (addAt pw ip (-w)) tgt w).getD ip 0 = pw.getD ip 0 - w ∧
    (addAt (addAt pw ip (-w)) tgt w).getD tgt 0 = pw.getD tgt 0 + w := by
  rw [move_getD pw w hip htg, move_getD pw w hip htg, if_pos rfl, if_pos rfl, if_neg hne.symm, if_neg hne]
  omega

/-- `thread_max_pws`: the generated test and differences never underflow in an unsigned type
(before the repair `max_part_weight - pw` was evaluated unconditionally and panicked for a part
above the cap), and applying an exact share `q = room / T` the way the code does — added when
`pw ≤ cap`, subtracted otherwise — is the model's `tmaxOf` entry `pw + (cap − pw).tdiv T`. -/
theorem thread_max_room_tie (pw cap T : Nat) :
    ∃ up room, arcswap_thread_max_room pw cap = some (up, room) ∧
      (up = 1 ∨ up = 0) ∧
      (up = 1 → pw ≤ cap ∧ (room : Int) = cap - pw ∧
        (pw : Int) + ((room / T : Nat) : Int) = pw + Int.tdiv ((cap : Int) - pw) T) ∧
      (up = 0 → cap < pw ∧ (room : Int) = pw - cap ∧
        (pw : Int) - ((room / T : Nat) : Int) = pw + Int.tdiv ((cap : Int) - pw) T) := by
  unfold arcswap_thread_max_room csub
  by_cases h : pw ≤ cap
  · refine ⟨1, cap - pw, by simp [h], Or.inl rfl, fun _ => ⟨h, Int.ofNat_sub h, ?_⟩, fun h0 => by omega⟩
    rw [Int.ofNat_tdiv, Int.ofNat_sub h]
  · have hle : cap ≤ pw := by omega
    refine ⟨0, pw - cap, by simp [h, hle], Or.inr rfl, fun h1 => by omega,
      fun _ => ⟨by omega, Int.ofNat_sub hle, ?_⟩⟩
    rw [Int.ofNat_tdiv, Int.ofNat_sub hle, ← Int.neg_sub (pw : Int) cap, Int.neg_tdiv, Int.sub_eq_add_neg]

/-- What a task reports never panics — also in an unsigned type — and is the model's
`(taskGain, taskLoss)`. -/
theorem task_report_tie (threadPw pw : Nat) :
    ∃ g l, arcswap_task_report threadPw pw = some (g, l) ∧
      (g : Int) = taskGain pw threadPw ∧ (l : Int) = taskLoss pw threadPw := by
  unfold arcswap_task_report csub taskGain taskLoss
  by_cases h : pw ≤ threadPw
  · have h' : (pw : Int) ≤ threadPw := Int.ofNat_le.2 h
    exact ⟨threadPw - pw, 0, by simp [h], by rw [if_pos h', Int.ofNat_sub h], by rw [if_pos h']; rfl⟩
  · have h' : ¬ (pw : Int) ≤ threadPw := fun h' => h (Int.ofNat_le.1 h')
    have h2 : threadPw ≤ pw := by omega
    exact ⟨0, pw - threadPw, by simp [h, h2], by rw [if_neg h']; rfl, by rw [if_neg h', Int.ofNat_sub h2]⟩

/-- The generated update: defined exactly when the losses do not exceed weight plus gains. -/
theorem merge_update_tie (pw gain loss : Nat) :
    (loss ≤ pw + gain → arcswap_merge_update pw gain loss = some (pw + gain - loss)) ∧
    (pw + gain < loss → arcswap_merge_update pw gain loss = none) := by
  unfold arcswap_merge_update csub
  constructor <;> intro h
  · simp [h]
  · have : ¬ loss ≤ pw + gain := by omega
    simp [this]

/-- C05c carried over to the generated code: in every reachable state (any graph, any number
of tasks, any interleaving, any pass) the generated end-of-pass update of a part, run on the
weight the pass started from and on the reduced gains and losses, does not panic in an unsigned
weight type, returns the true load of the part, and every operand and the result are at most
`max(input load of the part, max_part_weight)`. -/
theorem merge_update_reachable {c : Cfg} {p₀ : List Nat} {s : State} (hy : Hyp c p₀) (h : Reach c p₀ s)
    (p : Nat) (hp : p < c.partCount) :
    ∃ r, arcswap_merge_update (s.pw.getD p 0).toNat (gainSum s p (s.pw.getD p 0)).toNat
          (lossSum s p (s.pw.getD p 0)).toNat = some r ∧
      (r : Int) = Coupe.load c.w s.parts p ∧
      (r : Int) ≤ max (Coupe.load c.w p₀ p) c.maxPw ∧
      ((s.pw.getD p 0).toNat + (gainSum s p (s.pw.getD p 0)).toNat : Int) ≤ max (Coupe.load c.w p₀ p) c.maxPw ∧
      ((lossSum s p (s.pw.getD p 0)).toNat : Int) ≤ max (Coupe.load c.w p₀ p) c.maxPw := by
  obtain ⟨⟨-, g1⟩, ⟨m0, m1⟩, hm⟩ := merge_updates_in_range hy h p hp
  obtain ⟨l0, l1⟩ : PwFits c p₀ p (lossSum s p (s.pw.getD p 0)) := merge_losses_in_range hy h p hp (.refl s.tasks)
  have g0 : 0 ≤ gainSum s p (s.pw.getD p 0) := (merge_gains_in_range hy h p hp (.refl s.tasks)).1.1
  have hpw := pw_nonneg_reach hy h p hp
  rw [← hm]
  rw [mergePw_getD c s p ((inv2_reach hy h).pwlen.1 ▸ hp)] at m0 m1 ⊢
  generalize max (Coupe.load c.w p₀ p) c.maxPw = M at *
  generalize gainSum s p (s.pw.getD p 0) = G at *
  generalize lossSum s p (s.pw.getD p 0) = L at *
  generalize s.pw.getD p 0 = a at *
  -- all three operands are non-negative: compute in `Nat`
  obtain ⟨a, rfl⟩ := Int.eq_ofNat_of_zero_le hpw
  obtain ⟨G, rfl⟩ := Int.eq_ofNat_of_zero_le g0
  obtain ⟨L, rfl⟩ := Int.eq_ofNat_of_zero_le l0
  simp only [Int.toNat_natCast]
  exact ⟨a + G - L, (merge_update_tie _ _ _).1 (by omega), by omega, by omega, g1, l1⟩

/-- The model's `Metadata` has exactly the fields of the source's struct, in the same order (the
order of the line protocol), `i64 ↦ Int`, `usize ↦ Nat`; the translator has checked that the
source's `Metadata::merge` is the field-wise sum of all of them, and so is the model's. -/
theorem metadata_fields_tie :
    arcswap_metadata_fields =
      [("edge_cut_gain", "i64"), ("pass_count", "usize"), ("move_attempts", "usize"), ("move_count", "usize"),
       ("race_count", "usize"), ("locked_count", "usize"), ("no_gain_count", "usize"),
       ("bad_balance_count", "usize"), ("vertices_per_thread", "usize")] := rfl

theorem metadata_merge_fieldwise (a b : Metadata) :
    (a.merge b).edgeCutGain = a.edgeCutGain + b.edgeCutGain ∧ (a.merge b).passCount = a.passCount + b.passCount ∧
    (a.merge b).moveAttempts = a.moveAttempts + b.moveAttempts ∧ (a.merge b).moveCount = a.moveCount + b.moveCount ∧
    (a.merge b).raceCount = a.raceCount + b.raceCount ∧ (a.merge b).lockedCount = a.lockedCount + b.lockedCount ∧
    (a.merge b).noGainCount = a.noGainCount + b.noGainCount ∧
    (a.merge b).badBalanceCount = a.badBalanceCount + b.badBalanceCount ∧
    (a.merge b).verticesPerThread = a.verticesPerThread + b.verticesPerThread := by
  simp [Metadata.merge]

/-- Non-vacuity: the generated functions on the numbers of a task with a non-zero gain and loss
(those of the example state of `Props/C05c.lean`). -/
example : arcswap_task_report 3 2 = some (1, 0) ∧ arcswap_task_report 1 2 = some (0, 1) ∧
    arcswap_merge_update 2 1 3 = some 0 ∧ arcswap_merge_update 2 1 4 = none ∧
    arcswap_balance_reject 2 3 4 = 1 ∧ arcswap_balance_reject 1 3 4 = 0 ∧
    arcswap_move_weights 1 5 2 = none := by decide

end Coupe.GenTieArc

#print axioms Coupe.GenTieArc.balance_reject_tie
#print axioms Coupe.GenTieArc.balance_reject_01
#print axioms Coupe.GenTieArc.move_weights_tie
#print axioms Coupe.GenTieArc.model_move_entries
#print axioms Coupe.GenTieArc.thread_max_room_tie
#print axioms Coupe.GenTieArc.task_report_tie
#print axioms Coupe.GenTieArc.merge_update_tie
#print axioms Coupe.GenTieArc.merge_update_reachable
#print axioms Coupe.GenTieArc.metadata_fields_tie
#print axioms Coupe.GenTieArc.metadata_merge_fieldwise
