import CoupeModel.Model.Rcb
import CoupeModel.Proofs.Rcb
import CoupeModel.Proofs.RcbBalance
import CoupeModel.Proofs.RcbRanked

/-!
# C03 — Rcb/Rib parts are leaves of a recursive axis-aligned bisection

Property theorems only (lemmas in `Proofs/Rcb.lean`).  The model is generic in the
coordinate type; the order facts the proofs use are the hypothesis `OrderLawsOn S`
(strict weak order on a set `S` of values, `<=` the complement of the converse) together
with "every input coordinate is in `S`".  For `α = Int`, `S` = everything
(`intOrderLaws`); for `f32`, `S` = the non-NaN values and the laws are IEEE-754 (trusted,
Lean's floats are opaque to the kernel).  Only INPUT coordinates are ever compared by the
code paths these theorems cover (`reorder_split_scalar` compares items with the pivot
item), so no law about rounding or arithmetic is needed: the theorems hold for every
pivot the cut search may pick, for every `withinTol`, every bounding box, every fuel.
-/

namespace Coupe.Rcb

variable {α : Type} [Coord α]

/-- `reorder_split_scalar`, for an in-range pivot: no index leaves the arrays (the unchecked
reads included), the loop terminates within its fuel, the result is a permutation of the
items, everything left of the split is `<` the pivot value, nothing right of it is, and
the pivot itself is on the right. -/
theorem reorderSplit_spec {S : α → Prop} (laws : OrderLawsOn S) (items : List (Item α))
    (pivot coord : Nat) (p : Item α) (hS : ∀ x ∈ items, S (x.key coord))
    (hp : items[pivot]? = some p) :
    ∃ l r, reorderSplit items pivot coord = .ok (l, r) ∧ (l ++ r).Perm items ∧
      (∀ x ∈ l, Coord.lt (x.key coord) (p.key coord) = true) ∧
      (∀ x ∈ r, Coord.lt (x.key coord) (p.key coord) = false) ∧ p ∈ r :=
  reorderSplit_spec_aux laws hS hp

/-- An out-of-range pivot is the bounds-check panic of `swap(0, pivot)`. -/
theorem reorderSplit_bad_pivot (items : List (Item α)) (pivot coord : Nat)
    (h : items.length ≤ pivot) : reorderSplit items pivot coord = .oob := by
  unfold reorderSplit swapAt
  rw [dif_neg fun hb => Nat.not_lt_of_le h hb.2]

/-- **C03 for Rcb.**  Whenever `rcb` returns ids (any bounding box, any tolerance test, any
fuel), there is a binary tree `t` such that
* `t` is a recursive bisection of the points: depth ≤ `iter`, axes cyclic from 0, every
  internal node strictly separates its low side from its high side on its axis
  (`IsBisection`, on the `α` = `f32` coordinates);
* the leaves partition the index set `0 … n-1`;
* leaf numbers increase strictly from low to high, so distinct leaves are distinct parts;
* `ids[i]` is the number of the leaf holding `i`, minus a common offset;
* `ids` has the input's length and every id is `< 2^iter`. -/
theorem rcb_is_bisection {S : α → Prop} (laws : OrderLawsOn S) (wt : Int → Int → Bool) (cfg : Cfg)
    (iter : Nat) (pts : List (List α)) (ws : List Int) (plen : Nat) (blo bhi : List α) (ids : List Nat)
    (hS : ∀ p ∈ pts, ∀ c, S (p.getD c Coord.zero))
    (h : runBB wt cfg iter pts ws plen blo bhi = .ok ids) :
    ∃ t : Tree (NodeInfo α),
      IsBisection (ptKey pts) cfg.dim iter 0 0 t ∧
      t.members.Perm (List.range pts.length) ∧
      (t.leaves.map (·.1)).Pairwise (· < ·) ∧
      (∃ off, ∀ pl ∈ t.leaves, ∀ i ∈ pl.2, off ≤ pl.1 ∧ ids[i]? = some (pl.1 - off)) ∧
      ids.length = pts.length ∧ ∀ v ∈ ids, v < 2 ^ iter := by
  obtain ⟨t, h1, h2, h3, h4, h5⟩ := runBB_bisection laws wt cfg iter pts ws plen blo bhi ids hS h
  exact ⟨t, h1, h2, leaves_increasing _ _ t _ _ _ h1, h3, h4, h5⟩

/-- Two points that no axis orders strictly (in particular two points with identical
coordinates, or differing only in the sign of a zero) receive the same part. -/
theorem rcb_unseparated_same_part {S : α → Prop} (laws : OrderLawsOn S) (wt : Int → Int → Bool)
    (cfg : Cfg) (iter : Nat) (pts : List (List α)) (ws : List Int) (plen : Nat) (blo bhi : List α)
    (ids : List Nat) (hS : ∀ p ∈ pts, ∀ c, S (p.getD c Coord.zero))
    (h : runBB wt cfg iter pts ws plen blo bhi = .ok ids)
    (i j : Nat) (hi : i < pts.length) (hj : j < pts.length)
    (hij : ∀ c, Coord.lt (ptKey pts i c) (ptKey pts j c) = false ∧
                Coord.lt (ptKey pts j c) (ptKey pts i c) = false) :
    ids[i]? = ids[j]? := by
  obtain ⟨t, hb, hperm, ⟨off, hoff⟩, _, _⟩ :=
    runBB_bisection laws wt cfg iter pts ws plen blo bhi ids hS h
  have him : i ∈ t.members := hperm.mem_iff.2 (by simpa using hi)
  have hjm : j ∈ t.members := hperm.mem_iff.2 (by simpa using hj)
  obtain ⟨pl, hpl, h1, h2⟩ := same_leaf (ptKey pts) cfg.dim i j hij t _ _ _ hb him hjm
  rw [(hoff pl hpl i h1).2, (hoff pl hpl j h2).2]

/-- Points with identical coordinates share a part. -/
theorem rcb_same_point_same_part {S : α → Prop} (laws : OrderLawsOn S) (wt : Int → Int → Bool)
    (cfg : Cfg) (iter : Nat) (pts : List (List α)) (ws : List Int) (plen : Nat) (blo bhi : List α)
    (ids : List Nat) (hS : ∀ p ∈ pts, ∀ c, S (p.getD c Coord.zero))
    (h : runBB wt cfg iter pts ws plen blo bhi = .ok ids)
    (i j : Nat) (hi : i < pts.length) (hj : j < pts.length) (heq : pts[i]? = pts[j]?) :
    ids[i]? = ids[j]? := by
  refine rcb_unseparated_same_part laws wt cfg iter pts ws plen blo bhi ids hS h i j hi hj ?_
  intro c
  have hk : ptKey pts i c = ptKey pts j c := by
    simp [ptKey, List.getD_eq_getElem?_getD, heq]
  have hSi : S (ptKey pts i c) := by
    rw [ptKey, ← List.getElem_eq_getD (h := hi)]
    exact hS _ (List.getElem_mem hi) c
  rw [← hk]
  exact ⟨laws.irrefl _ hSi, laws.irrefl _ hSi⟩

/-- **C03 for Rib**: the same, in the frame `rotate` maps the points to – for EVERY function
`rotate` (the inertia-axis computation is numerical code outside the model; the driver
feeds the frame exported by the implementation). -/
theorem rib_is_bisection {β : Type} {S : α → Prop} (laws : OrderLawsOn S) (rotate : β → List α)
    (wt : Int → Int → Bool) (cfg : Cfg) (iter : Nat) (pts : List β) (ws : List Int) (plen : Nat)
    (ids : List Nat) (hS : ∀ p ∈ pts, ∀ c, S ((rotate p).getD c Coord.zero))
    (h : runRib rotate wt cfg iter pts ws plen = .ok ids) :
    ∃ t : Tree (NodeInfo α),
      IsBisection (ptKey (pts.map rotate)) cfg.dim iter 0 0 t ∧
      t.members.Perm (List.range pts.length) ∧
      (t.leaves.map (·.1)).Pairwise (· < ·) ∧
      (∃ off, ∀ pl ∈ t.leaves, ∀ i ∈ pl.2, off ≤ pl.1 ∧ ids[i]? = some (pl.1 - off)) ∧
      ids.length = pts.length ∧ ∀ v ∈ ids, v < 2 ^ iter := by
  have := rcb_is_bisection laws wt cfg iter (pts.map rotate) ws plen _ _ ids
    (by
      intro p hp c
      obtain ⟨q, hq, rfl⟩ := List.mem_map.1 hp
      exact hS q hq c) h
  rwa [List.length_map] at this

/-- No out-of-range access anywhere in `rcb` (checked or unchecked): the model's only
other failure is a cut search that exceeds its fuel (see `split_terminates_int`). -/
theorem rcb_no_out_of_bounds {S : α → Prop} (laws : OrderLawsOn S) (wt : Int → Int → Bool)
    (cfg : Cfg) (iter : Nat) (pts : List (List α)) (ws : List Int) (plen : Nat) (blo bhi : List α)
    (hS : ∀ p ∈ pts, ∀ c, S (p.getD c Coord.zero)) :
    runBB wt cfg iter pts ws plen blo bhi ≠ .oob := by
  intro h
  rcases runBB_cases wt cfg iter pts ws plen blo bhi with e | ⟨_, e⟩ | ⟨_, _, _, e⟩
  · rw [e] at h; cases h
  · rw [e] at h; cases h
  rw [e] at h
  split at h
  · next ht =>
    exact recurse_no_oob laws wt cfg iter _ _ _ _ _ _ (mkItems_forall_key hS ws) ht
  · cases h
  · cases h

/-- Termination of the cut search (`par_rcb_split`) in exact integer arithmetic: fuel
`max − min + 2` is never exhausted, for every tolerance test, weights and items (the
interval halves until it is at most one unit wide, then the target repeats and the count
plateau exit – or the all-left exit – fires).  The same argument for every ranked
coordinate type is `split_terminates_ranked` below. -/
theorem split_terminates_int (wt : Int → Int → Bool) (coord : Nat) (sum : Int)
    (items : List (Item Int)) (fuel : Nat) (mn mx : Int) (hle : mn ≤ mx)
    (hf : (mx - mn).toNat + 2 ≤ fuel) :
    split wt coord sum items fuel 0 mn mx none false ≠ .fuel :=
  split_terminates_ranked_aux intRanked intOrderLaws wt coord sum items (fun _ _ => trivial) fuel 0 mn mx
    none false trivial trivial hle hf

/-- A length mismatch is reported, nothing else happens. -/
theorem rcb_len_mismatch (wt : Int → Int → Bool) (cfg : Cfg) (iter : Nat) (pts : List (List α))
    (ws : List Int) (plen : Nat) (blo bhi : List α) (h : ws.length ≠ plen ∨ pts.length ≠ plen) :
    runBB wt cfg iter pts ws plen blo bhi = .lenMismatch := by
  unfold runBB
  rcases h with h | h
  · exact if_pos h
  · by_cases h' : ws.length ≠ plen
    · exact if_pos h'
    · rw [if_neg h', if_pos h]

/-! ## Termination for every ranked coordinate type

`RankedCoord α` (Proofs/RcbRanked.lean): a set `S` of values and `rank : α → Int`, strictly
monotone for `<` on `S`, such that the target `Coord.mid a b` of two values of `S` is in `S`
and lies, by rank, between them, and a target that has the rank of an end point reproduces
itself in the next round (`mid_fix_lo`, `mid_fix_hi`).  `Int` is an instance (`intRanked`,
proved).  For `f32` nothing is proved: on which sets `S` IEEE-754 gives the laws (for the target
`min / 2.0 + max / 2.0` not on all finite values) is argued in the header of
Proofs/RcbRanked.lean and remains TRUSTED. -/

/-- Termination of the cut search (`par_rcb_split`) on ranked coordinates: fuel
`rank max − rank min + 2` is never exhausted.  The measure `rank max − rank min` decreases
in every round that moves an end point to a target of a different rank; otherwise the next
target equals the current one, the fold returns the same `count_left`, and the
`count_left == prev_count_left` test returns. -/
theorem split_terminates_ranked (R : RankedCoord α) {So : α → Prop} (laws : OrderLawsOn So)
    (wt : Int → Int → Bool) (coord : Nat) (sum : Int) (items : List (Item α)) (fuel : Nat) (mn mx : α)
    (hS : ∀ x ∈ items, So (x.key coord)) (hmn : R.S mn) (hmx : R.S mx)
    (hle : R.rank mn ≤ R.rank mx) (hf : (R.rank mx - R.rank mn).toNat + 2 ≤ fuel) :
    split wt coord sum items fuel 0 mn mx none false ≠ .fuel :=
  split_terminates_ranked_aux R laws wt coord sum items hS fuel 0 mn mx none false hmn hmx hle hf

/-- `Int` is a ranked coordinate type: `split_terminates_int` again, this time as the
instance `intRanked` of `split_terminates_ranked`. -/
theorem split_terminates_int_ranked (wt : Int → Int → Bool) (coord : Nat) (sum : Int)
    (items : List (Item Int)) (fuel : Nat) (mn mx : Int) (hle : mn ≤ mx)
    (hf : (mx - mn).toNat + 2 ≤ fuel) :
    split wt coord sum items fuel 0 mn mx none false ≠ .fuel :=
  split_terminates_ranked intRanked intOrderLaws wt coord sum items fuel mn mx
    (fun _ _ => trivial) trivial trivial hle hf

/-- **`rcb` is total on ranked coordinates** (`D ≥ 1`): with every input coordinate in `S`
and fuel at least the rank width of the point set on every axis plus two, `rcb` reports a
length mismatch or returns ids – no out-of-range access, no search that outlives its fuel
(every node's search starts from an interval inside the root's bounding box). -/
theorem rcb_total_ranked (R : RankedCoord α) (laws : OrderLawsOn R.S) (wt : Int → Int → Bool)
    (cfg : Cfg) (iter : Nat) (pts : List (List α)) (ws : List Int) (plen : Nat) (hdim : 0 < cfg.dim)
    (hS : ∀ p ∈ pts, ∀ c, R.S (p.getD c Coord.zero))
    (hfuel : ∀ p ∈ pts, ∀ q ∈ pts, ∀ c, c < cfg.dim →
      (R.rank (q.getD c Coord.zero) - R.rank (p.getD c Coord.zero)).toNat + 2 ≤ cfg.fuel) :
    run wt cfg iter pts ws plen = .lenMismatch ∨ ∃ ids, run wt cfg iter pts ws plen = .ok ids := by
  unfold run
  rcases runBB_cases wt cfg iter pts ws plen (bbox cfg.dim pts).1 (bbox cfg.dim pts).2 with
    e | ⟨_, e⟩ | ⟨_, _, hne, e⟩
  · exact .inl e
  · exact .inr ⟨_, e⟩
  have hSi := mkItems_forall_key hS ws
  rw [e]
  split
  · next ht => exact absurd ht (recurse_no_oob laws wt cfg iter _ _ _ _ _ _ hSi)
  · next ht =>
    exact absurd ht (recurse_not_fuel_ranked R laws wt cfg iter _ _ _ _ _ _ hSi hdim
      (bbox_rbox R cfg.dim cfg.fuel pts hne hS hfuel))
  · exact .inr ⟨_, rfl⟩

/-- The exact-integer instance: fuel `(largest − smallest coordinate on any axis) + 2`. -/
theorem rcb_total_int (wt : Int → Int → Bool) (cfg : Cfg) (iter : Nat) (pts : List (List Int))
    (ws : List Int) (plen : Nat) (hdim : 0 < cfg.dim)
    (hfuel : ∀ p ∈ pts, ∀ q ∈ pts, ∀ c, c < cfg.dim →
      (q.getD c 0 - p.getD c 0).toNat + 2 ≤ cfg.fuel) :
    run wt cfg iter pts ws plen = .lenMismatch ∨ ∃ ids, run wt cfg iter pts ws plen = .ok ids :=
  rcb_total_ranked intRanked intOrderLaws wt cfg iter pts ws plen hdim (fun _ _ _ => trivial) hfuel

/-- Non-vacuity of the fuel hypothesis of `rcb_total_int`: the input of the first example
below spans 50 units in x and 100 in y. -/
example : ∀ p ∈ [[-13, 60], [20, -40], [10, 10], [-30, -25], [-13, -3], [20, 10], [-30, 10], [13, -20]],
    ∀ q ∈ [[-13, 60], [20, -40], [10, 10], [-30, -25], [-13, -3], [20, 10], [-30, 10], [13, -20]],
    ∀ c, c < 2 → ((q : List Int).getD c 0 - (p : List Int).getD c 0).toNat + 2 ≤ 102 := by decide +kernel

/-! Non-vacuity: `test_rcb_basic` scaled to integers (x10), two levels; the K1(b) outlier
input; all points identical. -/
example : run (α := Int) (fun _ _ => false) ⟨2, 100⟩ 2
    [[-13, 60], [20, -40], [10, 10], [-30, -25], [-13, -3], [20, 10], [-30, 10], [13, -20]]
    [1, 1, 1, 1, 1, 1, 1, 1] 8 = .ok [1, 2, 3, 0, 1, 3, 1, 2] := by decide +kernel
example : run (α := Int) (fun _ _ => false) ⟨2, 100⟩ 1
    [[0, 0], [1, 0], [2, 0], [3, 0], [100, 0]] [1, 1, 1, 1, 1] 5 = .ok [0, 0, 0, 0, 1] := by
  decide +kernel
example : run (α := Int) (fun _ _ => false) ⟨2, 100⟩ 3
    [[1, 1], [1, 1], [1, 1]] [1, 1, 1] 3 = .ok [0, 0, 0] := by decide +kernel

end Coupe.Rcb

#print axioms Coupe.Rcb.intOrderLaws
#print axioms Coupe.Rcb.reorderSplit_spec
#print axioms Coupe.Rcb.reorderSplit_bad_pivot
#print axioms Coupe.Rcb.rcb_is_bisection
#print axioms Coupe.Rcb.rcb_unseparated_same_part
#print axioms Coupe.Rcb.rcb_same_point_same_part
#print axioms Coupe.Rcb.rib_is_bisection
#print axioms Coupe.Rcb.rcb_no_out_of_bounds
#print axioms Coupe.Rcb.rcb_len_mismatch
#print axioms Coupe.Rcb.split_terminates_int
#print axioms Coupe.Rcb.split_terminates_ranked
#print axioms Coupe.Rcb.split_terminates_int_ranked
#print axioms Coupe.Rcb.rcb_total_ranked
#print axioms Coupe.Rcb.rcb_total_int
