import CoupeModel.Gen.IntFns
import CoupeModel.Gen.NextAfter
import CoupeModel.Model.NextAfter
import CoupeModel.Model.ArcSwap
import CoupeModel.Model.Sfc
import CoupeModel.Model.Grid
import CoupeModel.Model.GridRcb
import CoupeModel.Proofs.GenTie
import CoupeModel.Proofs.NextAfter

/-!
# GenTie — the hand-written models equal what the translator generates from the source

Part 1 (`Coupe.GenTie`): `Gen/IntFns.lean` is regenerated from /repo on every run
(`tools/extract_intfns.py`, hooked into `tools/extract.py`): an expression-by-expression
translation of small integer functions, with Rust's checked arithmetic made explicit
(`csub`/`cdiv`/`cmod`/`cidx`, `none` = panic).  The theorems below state that each hand
model used by C05 / C09 / C10 / C16 IS that translation on the inputs the model accepts, and
that the translation panics (`none`) exactly where the model has its abort outcome.  A change
of one of these expressions in /repo changes `Gen/IntFns.lean` and breaks the theorem.

Part 2 (`Coupe.NextAfter`): `src/nextafter.rs` on IEEE-754 bit patterns
(`Model/NextAfter.lean`; the source text is pattern-locked by the translator and re-checked
here), its case analysis, the adjacency/monotonicity of one step, the iteration towards zero
and the termination of the factor loop of `segment_to_segment` — and its divergence from
`+∞`, the behaviour before fix 524abd8 (defect N5 of DESIGN §11.2).
-/

namespace Coupe.GenTie
open Coupe.Gen.IntFns

/-! ## `work_share` (C05: `Model/ArcSwap.lean: workShare`) -/

/-- On positive arguments no subtraction underflows, no divisor is zero, and the translation
of `src/work_share.rs` is the hand model. -/
theorem work_share_tie (total maxThreads : Nat) (ht : 0 < total) (hm : 0 < maxThreads) :
    work_share total maxThreads = some (Coupe.ArcSwap.workShare total maxThreads) := by
  have hmin : 0 < min total maxThreads := by omega
  have hper : 0 < (total + min total maxThreads - 1) / min total maxThreads := by
    apply Nat.div_pos <;> omega
  simp only [work_share, Coupe.ArcSwap.workShare]
  rw [csub_of_le (by omega)]
  simp only [Option.bind_eq_bind, Option.bind_some]
  rw [cdiv_of_pos hmin]
  simp only [Option.bind_some]
  rw [csub_of_le (by omega)]
  simp only [Option.bind_some]
  rw [cdiv_of_pos hper]
  simp

/-- "Panics if either argument is zero" (doc comment of `work_share`): it does. -/
theorem work_share_panics (total maxThreads : Nat) (h : total = 0 ∨ maxThreads = 0) :
    work_share total maxThreads = none := by
  have hmin : min total maxThreads = 0 := by omega
  simp only [work_share, hmin]
  by_cases ht : total = 0
  · subst ht; simp [csub]
  · rw [csub_of_le (by omega)]
    simp [cdiv]

example : work_share 101 20 = some (6, 17) := by decide
example : work_share 0 4 = none := by decide

/-! ## `Average::avg` for `u64` (C09: `Model/Sfc.lean: Hilbert.avgU64`) -/

theorem avg_tie (a b : Nat) : avg a b = Coupe.Sfc.Hilbert.avgU64 a b := rfl

/-- "Compute the average of two values without overflow": the value is `⌊(a + b) / 2⌋`
(`a + b = 2·(a AND b) + (a XOR b)`). -/
theorem avg_spec (a b : Nat) (_ha : a < 2 ^ 64) (_hb : b < 2 ^ 64) : avg a b = (a + b) / 2 :=
  avg_eq a b

/-- … and no intermediate value of `(a & b) + (a ^ b) / 2` leaves `u64`: the `Nat` rendering
of `+` is exact here. -/
theorem avg_no_overflow (a b : Nat) (ha : a < 2 ^ 64) (hb : b < 2 ^ 64) :
    (a &&& b) < 2 ^ 64 ∧ (a ^^^ b) < 2 ^ 64 ∧ (a ^^^ b) / 2 < 2 ^ 64 ∧ avg a b < 2 ^ 64 := by
  have h1 : a &&& b ≤ a := Nat.and_le_left
  have h2 : a ^^^ b < 2 ^ 64 := Nat.xor_lt_two_pow ha hb
  have h3 := avg_eq a b
  refine ⟨by omega, h2, by omega, by omega⟩

example : avg (2 ^ 64 - 1) (2 ^ 64 - 3) = 2 ^ 64 - 2 := by decide

/-! ## `Grid::position_of` / `Grid::index_of`, D = 2, 3 (C16: `Model/Grid.lean`, C10: `Model/GridRcb.lean`) -/

theorem position_of_2_tie (w h i : Nat) :
    position_of_2 w h i = Coupe.Grid.positionOf2 w i ∧
    position_of_2 w h i = Coupe.GridRcb.positionOf2 w i := ⟨rfl, rfl⟩

theorem position_of_3_tie (w h d i : Nat) :
    position_of_3 w h d i = Coupe.Grid.positionOf3 w h i ∧
    position_of_3 w h d i = Coupe.GridRcb.positionOf3 w h i := ⟨rfl, rfl⟩

theorem index_of_2_tie (w h x y : Nat) :
    index_of_2 w h x y = Coupe.Grid.indexOf2 w (x, y) ∧
    index_of_2 w h x y = Coupe.GridRcb.indexOf2 w (x, y) := ⟨rfl, rfl⟩

theorem index_of_3_tie (w h d x y z : Nat) :
    index_of_3 w h d x y z = Coupe.Grid.indexOf3 w h (x, y, z) ∧
    index_of_3 w h d x y z = Coupe.GridRcb.indexOf3 w h (x, y, z) := ⟨rfl, rfl⟩

example : position_of_3 3 3 3 22 = (1, 1, 2) ∧ index_of_3 3 3 3 1 1 2 = 22 := by decide

/-! ## `SubGrid::split_at` (C10: `Model/GridRcb.lean: SubGrid.splitAt`) -/

/-- For an axis inside the array, the translation of `split_at` is the hand model: same two
sub-grids, and `none` (panic on one of the two unsigned subtractions) in the same cases. -/
theorem split_at_tie (D : Nat) (sg : Coupe.GridRcb.SubGrid) (coord pos : Nat) (hc : coord < D) :
    split_at D sg.size sg.offset coord pos
      = (sg.splitAt coord pos).map (fun p => ((p.1.size, p.1.offset), (p.2.size, p.2.offset))) := by
  have hupd : ∀ f i v, Coupe.Gen.IntFns.upd f i v = Coupe.GridRcb.upd f i v := fun _ _ _ => rfl
  simp only [split_at, Coupe.GridRcb.SubGrid.splitAt, cidx_of_lt hc, Option.bind_eq_bind, Option.bind_some]
  by_cases h1 : pos < sg.offset coord
  · rw [csub_of_lt h1, if_pos h1]; rfl
  · rw [csub_of_le (by omega), if_neg h1]
    simp only [Option.bind_some]
    by_cases h2 : sg.size coord < pos - sg.offset coord
    · rw [csub_of_lt h2, if_pos h2]; rfl
    · rw [csub_of_le (by omega), if_neg h2]
      simp [hupd]

/-- "`coord` is `D` or larger" panics (doc comment of `split_at`); the hand model is only ever
read at `coord < D`. -/
theorem split_at_panics_oob (D : Nat) (size offset : Nat → Nat) (coord pos : Nat) (hc : D ≤ coord) :
    split_at D size offset coord pos = none := by
  simp [split_at, cidx_of_ge hc]

example : (split_at 2 (fun _ => 6) (fun _ => 0) 0 3).map (fun r => (r.1.1 0, r.1.1 1, r.2.1 0, r.2.2 0, r.2.2 1))
    = some (3, 6, 3, 3, 0) := by decide
example : (split_at 2 (fun _ => 6) (fun _ => 2) 0 1).isNone = true := by decide

/-! ## `IterationResult::part_of`, one turn of its loop (C10: `Model/GridRcb.lean: partOfAux`) -/

/-- The hand model's recursion on a `Split` node is one turn of the translated loop body
followed by the recursion on the sub-tree, coordinate and id that the body selects. -/
theorem part_of_step_tie (D : Nat) (pos : Nat → Nat) (coord position id : Nat)
    (l r it : Coupe.GridRcb.Tree) (hc : coord < D) :
    (part_of_step D pos coord position id l r it).map
        (fun s => Coupe.GridRcb.partOfAux D s.2.1 pos s.2.2 s.1)
      = some (Coupe.GridRcb.partOfAux D (.split position l r) pos coord id) := by
  have hD : 0 < D := by omega
  simp only [part_of_step, cidx_of_lt hc, cmod_of_pos hD, Option.bind_eq_bind, Option.bind_some]
  by_cases h : pos coord < position <;> simp [Coupe.GridRcb.partOfAux, h]

/-- `pos[start_coord]` with `start_coord ≥ D` panics. -/
theorem part_of_step_panics_oob (D : Nat) (pos : Nat → Nat) (coord position id : Nat)
    (l r it : Coupe.GridRcb.Tree) (hc : D ≤ coord) :
    part_of_step D pos coord position id l r it = none := by
  simp [part_of_step, cidx_of_ge hc]

example : part_of_step 2 (fun c => if c = 0 then 4 else 7) 1 5 3 "L" "R" "it" = some (7, "R", 0) := by decide

/-! ## `weighted_median`: chunk size (C10: `Model/GridRcb.lean: round`) -/

theorem median_chunk_size_tie (T mn mx : Nat) (h : mn ≤ mx) :
    median_chunk_size mn mx T
      = some (max ({} : Coupe.GridRcb.Cfg).minChunks T, max 1 ((mx - mn) / max ({} : Coupe.GridRcb.Cfg).minChunks T)) := by
  have : 0 < max 2 T := by omega
  simp only [median_chunk_size, csub_of_le h, cdiv_of_pos this, Option.bind_eq_bind, Option.bind_some]
  rfl

/-- The hand model's `round` (repaired code, `minChunks = 2`) is the `for` loop run on the
chunks of the translated size. -/
theorem median_round_tie (T : Nat) (ws : List Int) (minPw maxPw : Int) (mn mx : Nat) (left : Int)
    (h1 : mn ≤ mx) (h2 : mx ≤ ws.length) :
    (median_chunk_size mn mx T).map (fun cs =>
        let slice := (ws.drop mn).take (mx - mn)
        Coupe.GridRcb.forLoop minPw maxPw
          (Coupe.GridRcb.prefixPairs cs.2 mn left (Coupe.GridRcb.chunkSums cs.2 slice.length slice) 0 0) mn mx left)
      = (Coupe.GridRcb.round {} T ws minPw maxPw mn mx left).toOption := by
  rw [median_chunk_size_tie T mn mx h1]
  have h3 : ¬ (mx < mn ∨ ws.length < mx) := by omega
  have h4 : max 2 T ≠ 0 := by omega
  simp only [Coupe.GridRcb.round, if_neg h3, if_neg h4, Option.map_some, Except.toOption]

theorem median_chunk_size_panics (T mn mx : Nat) (h : mx < mn) : median_chunk_size mn mx T = none := by
  simp [median_chunk_size, csub_of_lt h]

example : median_chunk_size 3 20 4 = some (4, 4) := by decide

/-! ## `z_curve_partition`: chunk arithmetic (C09: `Model/Sfc.lean: ZCurve.chunkId`, `chunkStart`) -/

theorem z_curve_chunks_tie (n k : Nat) (hk : 0 < k) :
    z_curve_chunks n k = some (n / k, n % k, (n / k + 1) * (n % k), n / k + 1, max (n / k) 1) := by
  simp only [z_curve_chunks, cdiv_of_pos hk, cmod_of_pos hk, Option.bind_eq_bind, Option.bind_some]
  rfl

/-- `part_count = 0`: `points.len() / part_count` panics (`ZCurve.partition`'s
"attempt to divide by zero" outcome). -/
theorem z_curve_chunks_panics (n : Nat) : z_curve_chunks n 0 = none := by
  simp [z_curve_chunks, cdiv_zero]

/-- The hand model's id of position `pos` and its closed-form chunk start are written with the
five translated quantities (threshold, the two chunk sizes, quotient, remainder). -/
theorem chunk_id_tie (n k pos c ppp rem thr s1 s2 : Nat)
    (h : z_curve_chunks n k = some (ppp, rem, thr, s1, s2)) :
    Coupe.Sfc.ZCurve.chunkId n k pos
      = (if pos < thr then pos / s1 else Coupe.Sfc.ZCurve.numChunks thr s1 + (pos - thr) / s2) ∧
    Coupe.Sfc.ZCurve.chunkStart n k c = c * ppp + min c rem := by
  have hk : 0 < k := by
    refine Nat.pos_of_ne_zero fun h0 => ?_
    subst h0; rw [z_curve_chunks_panics] at h; exact absurd h (by simp)
  rw [z_curve_chunks_tie n k hk] at h
  simp only [Option.some.injEq, Prod.mk.injEq] at h
  obtain ⟨rfl, rfl, rfl, rfl, rfl⟩ := h
  exact ⟨rfl, rfl⟩

example : z_curve_chunks 10 4 = some (2, 2, 6, 3, 2) := by decide
example : z_curve_chunks 3 5 = some (0, 3, 3, 1, 1) := by decide

end Coupe.GenTie

namespace Coupe.NextAfter

/-! ## `nextafter` on bit patterns -/

/-- The text of `nextafter` (and of the factor loop) found in /repo by the translator is the
text recorded beside the hand translation. -/
theorem nextafter_source_locked :
    Coupe.Gen.NextAfter.nextafterSource = mirroredSource ∧
    Coupe.Gen.NextAfter.segLoopSource = mirroredSegLoop := ⟨rfl, rfl⟩

/-- `from == to` (in particular `-0.0 == +0.0`): returns `to`. -/
theorem nextafter_eq_same (frm to : Nat) (h : feq frm to = true) : nextafter frm to = to :=
  nextafter_same h

/-- A NaN operand: `f64::NAN`. -/
theorem nextafter_eq_nan (frm to : Nat) (h : isNan frm = true ∨ isNan to = true) :
    nextafter frm to = nanBits := by
  have e1 : feq frm to = false := by
    rcases h with h | h <;> (rw [feq_false_iff]; simp [h])
  rcases h with h | h <;> simp [nextafter, e1, h]

/-- `from = +∞` stays `+∞` whatever non-NaN `to` is (the fact behind defect N5) … -/
theorem nextafter_eq_pos_inf (to : Nat) (hto : isNan to = false) :
    nextafter posInf to = posInf := by
  by_cases h : feq posInf to = true
  · -- `to == +∞`: the code returns `to`, and the only pattern equal to `+∞` is `+∞` itself
    rw [nextafter_same h]
    have : to = 0x7ff0000000000000 := by fcmp
    rw [this]; rfl
  · have e2 : fge posInf posInf = true := by decide
    have e0 : isNan posInf = false := by decide
    simp [nextafter, h, e0, hto, e2]

/-- … and `-∞` stays `-∞` (for a valid pattern `to`). -/
theorem nextafter_eq_neg_inf (to : Nat) (hb : to < two64) (hto : isNan to = false) :
    nextafter negInf to = negInf := by
  by_cases h : feq negInf to = true
  · rw [nextafter_same h]
    have : to = 0xfff0000000000000 := by fcmp
    rw [this]; rfl
  · have e2 : fge negInf posInf = false := by decide
    have e3 : fle negInf negInf = true := by decide
    have e0 : isNan negInf = false := by decide
    simp [nextafter, h, e0, hto, e2, e3]

/-- `from = ±0`, `to` neither NaN nor zero: the smallest subnormal with the sign of `to`. -/
theorem nextafter_eq_zero (frm to : Nat) (hz : frm = posZero ∨ frm = negZero)
    (hto : isNan to = false) (htz : isZero to = false) :
    nextafter frm to = if isNeg to then 0x8000000000000001 else 1 :=
  nextafter_zero hz hto htz

/-- The last branch (finite non-zero `from`, `to` not NaN, `from != to`): the `u64`
operations `to_bits() + 1` / `to_bits() - 1` neither wrap nor underflow, and the result is
that pattern — the final `copysign(ret, from)` never changes it. -/
theorem nextafter_eq_bits (frm to : Nat) (hb : frm < two64) (hfin : isFinite frm = true)
    (hnz : isZero frm = false) (hto : isNan to = false) (hne : feq frm to = false) :
    frm + 1 < two64 ∧ 1 ≤ frm ∧
    nextafter frm to = if flt frm to == flt posZero frm then frm + 1 else frm - 1 :=
  bits_step hb hfin hnz hto hne

/-- One step from a finite `from` towards a different non-NaN `to`: a valid non-NaN pattern
whose `rank` is ADJACENT to `from`'s, on the side of `to` (`-0` and `+0` share rank 0, so
from either zero the result is the smallest subnormal of `to`'s sign; and a zero result
carries the sign of `from`, exactly as the code's `copysign(ret, from)`). -/
theorem nextafter_step (frm to : Nat) (hb : frm < two64) (hfin : isFinite frm = true)
    (hto : isNan to = false) (hne : feq frm to = false) :
    nextafter frm to < two64 ∧ isNan (nextafter frm to) = false ∧
    rank (nextafter frm to) = rank frm + (if flt frm to = true then 1 else -1) ∧
    (isZero (nextafter frm to) = true → isNeg (nextafter frm to) = isNeg frm) := by
  cases hz : isZero frm with
  | true =>
    have hz' : frm = posZero ∨ frm = negZero := by fcmp
    have htz : isZero to = false := by fcmp
    -- from a zero the direction is the sign of `to`; the rest is evaluation
    rw [nextafter_zero hz' hto htz, flt_zero hz hto htz]
    rcases hz' with rfl | rfl <;> cases isNeg to <;> decide
  | false =>
    rw [(bits_step hb hfin hz hto hne).2.2]
    exact move_one hb hfin hz (flt frm to) rfl

/-- The step moves towards `to` and never past it. -/
theorem nextafter_monotone_toward (frm to : Nat) (hb : frm < two64) (hfin : isFinite frm = true)
    (hto : isNan to = false) (hne : feq frm to = false) :
    (flt frm to = true → rank frm < rank (nextafter frm to) ∧ rank (nextafter frm to) ≤ rank to) ∧
    (flt to frm = true → rank to ≤ rank (nextafter frm to) ∧ rank (nextafter frm to) < rank frm) := by
  obtain ⟨_, _, hr, _⟩ := nextafter_step frm to hb hfin hto hne
  constructor
  · intro h
    have hlt : rank frm < rank to := ((flt_iff _ _).1 h).2.2
    rw [hr, if_pos h]; omega
  · intro h
    have hlt : rank to < rank frm := ((flt_iff _ _).1 h).2.2
    have h' : ¬ flt frm to = true := fun h2 => by
      have : rank frm < rank to := ((flt_iff _ _).1 h2).2.2
      omega
    rw [hr, if_neg h']; omega

example : isFinite 0x3ff0000000000000 = true ∧ feq 0x3ff0000000000000 posInf = false ∧
    rank (nextafter 0x3ff0000000000000 posInf) = rank 0x3ff0000000000000 + 1 := by decide

/-- Iterating `f ↦ nextafter(f, 0.0)` from a finite positive `f` (rank `f`) walks down the
patterns one by one and reaches `+0` after exactly `rank f` steps, not earlier. -/
theorem nextafter_towards_zero_terminates (f : Nat) (h1 : f < posInf) :
    rank f = (f : Int) ∧ (∀ n, n ≤ f → towardsZero n f = f - n) ∧ towardsZero f f = posZero ∧
    (∀ n, n < f → towardsZero n f ≠ posZero) := by
  have hs : f < 0x7ff0000000000000 := h1
  refine ⟨rank_pos (by simp only [signBit]; omega), fun n hn => towardsZero_sub n f h1 hn, ?_, ?_⟩
  · rw [towardsZero_sub f f h1 (Nat.le_refl f)]; simp [posZero]
  · intro n hn
    rw [towardsZero_sub n f h1 (by omega)]
    simp only [posZero]; omega

/-- From `+∞` the iteration never moves. -/
theorem nextafter_towards_zero_stuck_at_inf (n : Nat) : towardsZero n posInf = posInf := by
  induction n with
  | zero => rfl
  | succ n ih =>
    have : nextafter posInf posZero = posInf := by decide
    rw [towardsZero, this, ih]

example : towardsZero 5 5 = posZero ∧ towardsZero 4 5 = 1 := by decide

/-! ## The factor loop of `segment_to_segment` -/

/-- `while test(f) { f = nextafter(f, 0.0) }` from a FINITE non-negative `f`, for ANY test that
is false at `+0` (in the code `n <= width * 0.0` with `n = 2^order ≥ 1`: false): the loop ends
after `k ≤ rank f = f` calls of `nextafter` — `f + 1` evaluations of the test always suffice —
with the first pattern from `f` downwards on which the test is false. -/
theorem seg_factor_loop_terminates (test : Nat → Bool) (h0 : test posZero = false)
    (f : Nat) (hfin : f < posInf) (fuel : Nat) (hfuel : f < fuel) :
    ∃ k, k ≤ f ∧ segLoop test fuel f = some (f - k) ∧ test (f - k) = false ∧
      ∀ j, j < k → test (f - j) = true :=
  segLoop_terminates test h0 fuel f hfin hfuel

/-- From `+∞` with a test that holds there (`n <= width * ∞` for `width > 0`) the loop never
ends, whatever the fuel: the behaviour of `segment_to_segment` before `f64::min(n / width,
f64::MAX)` was introduced (fix 524abd8). -/
theorem seg_factor_loop_diverges_from_inf (test : Nat → Bool) (hinf : test posInf = true)
    (fuel : Nat) : segLoop test fuel posInf = none :=
  segLoop_diverges test hinf fuel

example : segLoop (fun f => decide (3 ≤ f)) 6 5 = some 2 := by decide
example : segLoop (fun f => decide (3 ≤ f)) 1000 posInf = none :=
  seg_factor_loop_diverges_from_inf _ (by decide) 1000

/-! ## The unit tests of `src/nextafter.rs`, evaluated on the bit-pattern model

`POS_INF = posInf`, `NEG_INF = negInf`, `SMALLEST_POS = 1`, `SMALLEST_NEG = 0x8000000000000001`,
`LARGEST_POS = maxFinite`, `LARGEST_NEG = 0xffefffffffffffff`, `POS_ONE = 0x3ff0000000000000`,
`NEG_ONE = 0xbff0000000000000`, `NEXT_LARGER_THAN_ONE = 0x3ff0000000000001`,
`NEXT_SMALLER_THAN_ONE = 0x3fefffffffffffff`,
`SEQUENCE_BIG_NUM = (0x420e3ea2fc700002, 0x420e3ea2fc700003)`, `NAN = nanBits`.
Bit equality is asserted (stronger than the `==` of `assert_eq!`). -/

-- next_larger_than_0 / next_smaller_than_0
example : nextafter posZero posInf = 1 ∧ nextafter negZero posInf = 1 := by decide
example : nextafter posZero negInf = 0x8000000000000001 ∧ nextafter negZero negInf = 0x8000000000000001 := by decide
-- step_towards_zero
example : nextafter 1 posZero = posZero ∧ nextafter 1 negZero = posZero ∧ nextafter 1 negInf = posZero := by decide
example : nextafter 0x8000000000000001 negZero = negZero ∧ nextafter 0x8000000000000001 posZero = negZero ∧
    nextafter 0x8000000000000001 posInf = negZero := by decide
-- special_case_signed_zeros
example : nextafter posZero negZero = negZero ∧ nextafter negZero posZero = posZero := by decide
-- nextafter_around_one
example : nextafter 0x3ff0000000000000 posInf = 0x3ff0000000000001 ∧
    nextafter 0x3ff0000000000000 negInf = 0x3fefffffffffffff ∧
    nextafter 0xbff0000000000000 negInf = 0xbff0000000000001 ∧
    nextafter 0xbff0000000000000 posInf = 0xbfefffffffffffff := by decide
-- nextafter_for_big_pos_number / nextafter_for_big_neg_number
example : nextafter 0x420e3ea2fc700002 posInf = 0x420e3ea2fc700003 ∧
    nextafter 0x420e3ea2fc700003 negInf = 0x420e3ea2fc700002 ∧
    nextafter 0x420e3ea2fc700002 0x420e3ea2fc700003 = 0x420e3ea2fc700003 ∧
    nextafter 0x420e3ea2fc700003 0x420e3ea2fc700002 = 0x420e3ea2fc700002 := by decide
example : nextafter 0xc20e3ea2fc700002 negInf = 0xc20e3ea2fc700003 ∧
    nextafter 0xc20e3ea2fc700003 posInf = 0xc20e3ea2fc700002 ∧
    nextafter 0xc20e3ea2fc700002 0xc20e3ea2fc700003 = 0xc20e3ea2fc700003 ∧
    nextafter 0xc20e3ea2fc700003 0xc20e3ea2fc700002 = 0xc20e3ea2fc700002 := by decide
-- step_to_largest_is_possible
example : nextafter (nextafter maxFinite negInf) posInf = maxFinite ∧
    nextafter (nextafter 0xffefffffffffffff posInf) negInf = 0xffefffffffffffff := by decide
-- jump_to_infinity / stays_at_infinity
example : nextafter maxFinite posInf = posInf ∧ nextafter 0xffefffffffffffff negInf = negInf := by decide
example : nextafter posInf negInf = posInf ∧ nextafter negInf posInf = negInf := by decide
-- returns_nan_for_any_nan_involved
example : isNan (nextafter nanBits 0x3ff0000000000000) = true ∧ isNan (nextafter 0x3ff0000000000000 nanBits) = true ∧
    isNan (nextafter nanBits nanBits) = true := by decide
-- returns_identity_for_equal_dest
example : ∀ x ∈ [posZero, negZero, 0x3ff0000000000000, 0xbff0000000000000, 0x420e3ea2fc700002, 0x420e3ea2fc700003,
    posInf, negInf, 1, 0x8000000000000001, maxFinite, 0xffefffffffffffff], nextafter x x = x := by decide
-- roundtrip
example : ∀ o ∈ [0x3ff0000000000000, 0xbff0000000000000, 0x420e3ea2fc700002, 0x420e3ea2fc700003, 1, 0x8000000000000001],
    nextafter (nextafter o posInf) negInf = o ∧ nextafter (nextafter o negInf) posInf = o ∧
    nextafter (nextafter o (nextafter o posInf)) (nextafter o negInf) = o ∧
    nextafter (nextafter o (nextafter o negInf)) (nextafter o posInf) = o := by decide

end Coupe.NextAfter

#print axioms Coupe.GenTie.work_share_tie
#print axioms Coupe.GenTie.work_share_panics
#print axioms Coupe.GenTie.avg_tie
#print axioms Coupe.GenTie.avg_spec
#print axioms Coupe.GenTie.avg_no_overflow
#print axioms Coupe.GenTie.position_of_2_tie
#print axioms Coupe.GenTie.position_of_3_tie
#print axioms Coupe.GenTie.index_of_2_tie
#print axioms Coupe.GenTie.index_of_3_tie
#print axioms Coupe.GenTie.split_at_tie
#print axioms Coupe.GenTie.split_at_panics_oob
#print axioms Coupe.GenTie.part_of_step_tie
#print axioms Coupe.GenTie.part_of_step_panics_oob
#print axioms Coupe.GenTie.median_chunk_size_tie
#print axioms Coupe.GenTie.median_round_tie
#print axioms Coupe.GenTie.median_chunk_size_panics
#print axioms Coupe.GenTie.z_curve_chunks_tie
#print axioms Coupe.GenTie.z_curve_chunks_panics
#print axioms Coupe.GenTie.chunk_id_tie
#print axioms Coupe.NextAfter.nextafter_source_locked
#print axioms Coupe.NextAfter.nextafter_eq_same
#print axioms Coupe.NextAfter.nextafter_eq_nan
#print axioms Coupe.NextAfter.nextafter_eq_pos_inf
#print axioms Coupe.NextAfter.nextafter_eq_neg_inf
#print axioms Coupe.NextAfter.nextafter_eq_zero
#print axioms Coupe.NextAfter.nextafter_eq_bits
#print axioms Coupe.NextAfter.nextafter_step
#print axioms Coupe.NextAfter.nextafter_monotone_toward
#print axioms Coupe.NextAfter.nextafter_towards_zero_terminates
#print axioms Coupe.NextAfter.nextafter_towards_zero_stuck_at_inf
#print axioms Coupe.NextAfter.seg_factor_loop_terminates
#print axioms Coupe.NextAfter.seg_factor_loop_diverges_from_inf
