import CoupeModel.Model.Basic
import CoupeModel.Model.Greedy
import CoupeModel.Model.Kk
import CoupeModel.Proofs.Greedy
import CoupeModel.Proofs.Kk

/-!
# C12 — Greedy is LPT scheduling; KarmarkarKarp is the differencing method

Weights are exact integers.  `p` is the caller's id array (any contents).

* Greedy: `IsLpt ws k L` says "`L` is the load vector of *some* LPT schedule":
  the weights in some non-increasing arrangement (any order among equal
  weights), each given to some currently lightest part (any choice among equally
  light parts).  `lpt_loads_unique`: all such `L` are permutations of each
  other; `greedy_loads_eq_lpt`: the loads of the model's output are one of them,
  hence equal (as a multiset) to every one of them.
* Two-way KK: `residue` replaces the two largest numbers by their difference
  until one is left (values only, no ids, no tie-breaking).
* k-way KK: the theorems hold for *every* `sort` that returns a descending
  permutation of the combined row (`SortOk`), i.e. for every way
  `sort_unstable_by` may order equal sums.
-/

namespace Coupe.C12
open Coupe.Greedy (IsLpt)
open Coupe.Kk (SortOk ValOk residue runWith kkBipart kkGeneral)

/-- Whatever the tie-breaking (order among equal weights, choice among equally
light parts), LPT yields the same multiset of part loads. -/
theorem lpt_loads_unique (ws : List Int) (k : Nat) (L₁ L₂ : List Int)
    (h₁ : IsLpt ws k L₁) (h₂ : IsLpt ws k L₂) : L₁.Perm L₂ := by
  obtain ⟨o₁, p₁, s₁, r₁⟩ := h₁
  obtain ⟨o₂, p₂, s₂, r₂⟩ := h₂
  -- the non-increasing arrangement of `ws` is unique
  obtain rfl : o₁ = o₂ :=
    (p₁.trans p₂.symm).eq_of_pairwise (fun _ _ _ _ h h' => Int.le_antisymm h' h) s₁ s₂
  exact Greedy.lptRun_perm r₁ r₂ (.refl _)

/-- Greedy's part loads (recomputed from the ids it wrote) are the loads of an
LPT schedule, hence the same multiset as the loads of *every* LPT schedule. -/
theorem greedy_loads_eq_lpt (p : List Nat) (ws : List Int) (k : Nat) (ids : List Nat)
    (hk : 2 ≤ k) (h : Greedy.run p ws k = .ok ids) :
    IsLpt ws k (loads ws ids k) ∧ ∀ L, IsLpt ws k L → (loads ws ids k).Perm L := by
  have hlen := Greedy.run_len h
  obtain rfl := Greedy.Outcome.ok.inj ((Greedy.run_loop hlen (by omega)).symm.trans h)
  have hL : IsLpt ws k (loads ws (Greedy.loop p ws k).1 k) := by
    rw [Greedy.loop_loads p ws k (by omega) hlen]
    exact Greedy.loop_isLpt p ws k (by omega)
  exact ⟨hL, fun L hL' => lpt_loads_unique ws k _ L hL hL'⟩

/-- Length preserved and every id below the part count (feeds C01). -/
theorem greedy_ids (p : List Nat) (ws : List Int) (k : Nat) (ids : List Nat)
    (h : Greedy.run p ws k = .ok ids) :
    ids.length = p.length ∧ ∀ i ∈ ids, i < max k 1 := by
  have hlen := Greedy.run_len h
  by_cases hk : k < 2
  · obtain rfl := Greedy.Outcome.ok.inj ((Greedy.run_small hlen hk).symm.trans h)
    refine ⟨List.length_map _, fun i hi => ?_⟩
    obtain ⟨_, _, rfl⟩ := List.mem_map.1 hi
    omega
  · obtain rfl := Greedy.Outcome.ok.inj ((Greedy.run_loop hlen hk).symm.trans h)
    exact ⟨(Greedy.loop_lengths p ws k).1, fun i hi =>
      Nat.lt_of_lt_of_le (Greedy.loop_ids_lt p ws k (by omega) hlen i hi) (Nat.le_max_left k 1)⟩

/-- Totality on contract inputs: with matching lengths Greedy answers `Ok`; the
loop is a `for` over the sorted vector (no fuel), and both indexings of the loop
body are in bounds: `partition[weight_id]` (`weight_id < len`) and
`part_weights[min_idx]` (the arg-min of a non-empty vector is a valid index, and
`part_weights` keeps its length `k`). -/
theorem greedy_total (p : List Nat) (ws : List Int) (k : Nat) (hlen : ws.length = p.length) :
    (∃ ids, Greedy.run p ws k = .ok ids) ∧
    (∀ e ∈ Greedy.sortDesc ws.zipIdx, e.2 < p.length) ∧
    (∀ L : List Int, L ≠ [] → Greedy.argMinLast L < L.length) ∧
    (Greedy.loop p ws k).2.length = k := by
  refine ⟨?_, fun e he => hlen ▸ Ckk.init_id_lt ws e (Greedy.sortDesc_eq _ ▸ he),
    fun L hL => Greedy.argMinLast_lt hL, (Greedy.loop_lengths p ws k).2⟩
  by_cases hk : k < 2
  · exact ⟨_, Greedy.run_small hlen hk⟩
  · exact ⟨_, Greedy.run_loop hlen hk⟩

/-- A length mismatch is reported before anything is written. -/
theorem greedy_len_mismatch (p : List Nat) (ws : List Int) (k : Nat)
    (h : ws.length ≠ p.length) : Greedy.run p ws k = .lenMismatch := by
  simp [Greedy.run, h]

/-- Two-way KK ends with a load difference equal to the differencing residue. -/
theorem kk2_diff (sort : Kk.Row → Kk.Row) (p : List Nat) (ws : List Int) (ids : List Nat)
    (h2 : 2 ≤ ws.length) (h : runWith sort p ws 2 = .ok ids) :
    ((load ws ids 0 - load ws ids 1).natAbs : Int) = residue ws := by
  have hlen := Kk.runWith_len h
  obtain ⟨q, hq, _, _, hd⟩ := Kk.runWith_two_spec sort p ws hlen (hlen ▸ h2)
  obtain rfl := Kk.Outcome.ok.inj (hq.symm.trans h)
  have := Kk.residue_nonneg ws h2
  omega

/-- Tuple spread: combining two descending rows with values in `[0, M]` as
`a_i + b_{k-1-i}`, sorting and subtracting the minimum gives again a descending
row with values in `[0, M]` – the spread never exceeds the larger spread. -/
theorem kk_tuple_spread (sort : Kk.Row → Kk.Row) (hsort : SortOk sort) (k : Nat) (hk : 0 < k)
    (M : Int) (a b e : Kk.Row) (t : List (Nat × Nat)) (hla : a.length = k) (hlb : b.length = k)
    (va : ValOk M a) (vb : ValOk M b) (hc : Kk.combine sort a b = some (e, t)) : ValOk M e :=
  Kk.combine_val hsort va vb hc

/-- Back-tracking correctness (k-way path): the part loads recomputed from the
ids are, part by part, the last remaining tuple plus one constant; and that
tuple is descending with values in `[0, M]` whenever all weights are. -/
theorem kk_backtrack (sort : Kk.Row → Kk.Row) (hsort : SortOk sort) (p : List Nat)
    (ws : List Int) (k : Nat) (ids : List Nat) (hk : 3 ≤ k) (hn : 2 ≤ ws.length)
    (h : runWith sort p ws k = .ok ids) :
    ∃ (final : Kk.Row) (c : Int), final.length = k ∧
      loads ws ids k = final.map (fun s => s.1 + c) ∧
      ∀ M, (∀ w ∈ ws, 0 ≤ w ∧ w ≤ M) → ValOk M final := by
  have hlen := Kk.runWith_len h
  obtain ⟨q, final, c, hq, _, _, hlf, hl, hv⟩ :=
    Kk.runWith_general_spec hsort p ws k hk hlen (hlen ▸ hn)
  obtain rfl := Kk.Outcome.ok.inj (hq.symm.trans h)
  refine ⟨final, c, hlf, List.ext_getElem (by simp [loads, hlf]) fun j h₁ h₂ => ?_, hv⟩
  simp [loads, hl j (by simpa using h₂)]

/-- For any part count `k ≥ 2` (both code paths, all early returns), any two
part loads differ by at most `M`, for every bound `M` on the (non-negative)
weights – in particular for the largest weight (`kk_gap_max`). -/
theorem kk_gap (sort : Kk.Row → Kk.Row) (hsort : SortOk sort) (p : List Nat) (ws : List Int)
    (k : Nat) (ids : List Nat) (M : Int) (hk : 2 ≤ k) (hM : 0 ≤ M)
    (hw : ∀ w ∈ ws, 0 ≤ w ∧ w ≤ M) (h : runWith sort p ws k = .ok ids) :
    ∀ j₁ < k, ∀ j₂ < k, load ws ids j₁ - load ws ids j₂ ≤ M := by
  obtain ⟨lo, b⟩ := Kk.runWith_band hsort hk hM hw h
  intro j₁ hj₁ j₂ hj₂
  have := b j₁ hj₁
  have := b j₂ hj₂
  omega

/-- The gap between the heaviest and the lightest part never exceeds the
largest weight `m` (`m ∈ ws`, `m` an upper bound of `ws`). -/
theorem kk_gap_max (sort : Kk.Row → Kk.Row) (hsort : SortOk sort) (p : List Nat) (ws : List Int)
    (k : Nat) (ids : List Nat) (m : Int) (hk : 2 ≤ k) (hnn : ∀ w ∈ ws, 0 ≤ w)
    (hm : m ∈ ws) (hmax : ∀ w ∈ ws, w ≤ m) (h : runWith sort p ws k = .ok ids) :
    ∀ j₁ < k, ∀ j₂ < k, load ws ids j₁ - load ws ids j₂ ≤ m :=
  kk_gap sort hsort p ws k ids m hk (hnn m hm) (fun w hw => ⟨hnn w hw, hmax w hw⟩) h

/-- Length preserved and every id below the part count (feeds C01). -/
theorem kk_ids (sort : Kk.Row → Kk.Row) (hsort : SortOk sort) (p : List Nat) (ws : List Int)
    (k : Nat) (ids : List Nat) (h : runWith sort p ws k = .ok ids) :
    ids.length = p.length ∧ ∀ i ∈ ids, i < max k 1 := by
  have hlen := Kk.runWith_len h
  rcases Kk.regimes k p.length with hc | ⟨rfl, hn⟩ | ⟨hk3, hn⟩
  · obtain rfl := Kk.Outcome.ok.inj ((Kk.runWith_small sort hlen hc).symm.trans h)
    refine ⟨List.length_map _, fun i hi => ?_⟩
    obtain ⟨_, _, rfl⟩ := List.mem_map.1 hi
    omega
  · obtain ⟨q, hq, hl, h01, _⟩ := Kk.runWith_two_spec sort p ws hlen hn
    obtain rfl := Kk.Outcome.ok.inj (hq.symm.trans h)
    exact ⟨hl, fun i hi => Nat.lt_succ_of_le (h01 i hi)⟩
  · obtain ⟨q, final, c, hq, hl, hlt, _⟩ := Kk.runWith_general_spec hsort p ws k hk3 hlen hn
    obtain rfl := Kk.Outcome.ok.inj (hq.symm.trans h)
    exact ⟨hl, fun i hi => Nat.lt_of_lt_of_le (hlt i hi) (Nat.le_max_left k 1)⟩

/-- Totality on contract inputs: with matching lengths the model never aborts –
no `unwrap` of an empty heap, no index out of bounds, no `1 - partition[a]`
underflow, no `copy_from_slice` length mismatch, and the fuel `n` (one heap
element less per iteration) suffices. -/
theorem kk_total (sort : Kk.Row → Kk.Row) (hsort : SortOk sort) (p : List Nat) (ws : List Int)
    (k : Nat) (hlen : ws.length = p.length) : ∃ ids, runWith sort p ws k = .ok ids := by
  rcases Kk.regimes k p.length with hc | ⟨rfl, hn⟩ | ⟨hk3, hn⟩
  · exact ⟨_, Kk.runWith_small sort hlen hc⟩
  · obtain ⟨q, hq, _⟩ := Kk.runWith_two_spec sort p ws hlen hn
    exact ⟨q, hq⟩
  · obtain ⟨q, _, _, hq, _⟩ := Kk.runWith_general_spec hsort p ws k hk3 hlen hn
    exact ⟨q, hq⟩

/-- A length mismatch is reported before anything is written. -/
theorem kk_len_mismatch (sort : Kk.Row → Kk.Row) (p : List Nat) (ws : List Int) (k : Nat)
    (h : ws.length ≠ p.length) : runWith sort p ws k = .lenMismatch := by
  simp [runWith, h]

/-- The executable instance of the sort (stable insertion sort, what the driver
runs) meets the hypothesis `SortOk` of the k-way theorems. -/
theorem kk_sort_instance : SortOk Kk.sortVal := fun l => by
  simpa [Kk.sortVal] using Kk.sortVal_aux l [] List.Pairwise.nil

/-! ## Non-vacuity -/

-- Greedy: ties among weights and among parts; loads 5 / 7 (LPT is not optimal here).
example : Greedy.run [9, 9, 9, 9, 9] [3, 3, 2, 2, 2] 2 = .ok [0, 1, 1, 0, 1] := by decide
example : loads [3, 3, 2, 2, 2] [0, 1, 1, 0, 1] 2 = [5, 7] := by decide
-- two-way KK: residue of [8,7,6,5,4] is 2 (8-7=1; 6-5=1; 4-1=3; 3-1=2)
example : Kk.run [9, 9, 9, 9, 9] [8, 7, 6, 5, 4] 2 = .ok [1, 0, 1, 0, 0] ∧
    residue [8, 7, 6, 5, 4] = 2 := by decide
-- k-way KK (the example of the docs): loads 9 / 6 / 5, largest weight 9
example : Kk.run [9, 9, 9, 9] [3, 5, 3, 9] 3 = .ok [1, 2, 1, 0] := by decide

end Coupe.C12

#print axioms Coupe.C12.lpt_loads_unique
#print axioms Coupe.C12.greedy_loads_eq_lpt
#print axioms Coupe.C12.greedy_ids
#print axioms Coupe.C12.greedy_total
#print axioms Coupe.C12.greedy_len_mismatch
#print axioms Coupe.C12.kk2_diff
#print axioms Coupe.C12.kk_tuple_spread
#print axioms Coupe.C12.kk_backtrack
#print axioms Coupe.C12.kk_gap
#print axioms Coupe.C12.kk_gap_max
#print axioms Coupe.C12.kk_ids
#print axioms Coupe.C12.kk_total
#print axioms Coupe.C12.kk_len_mismatch
#print axioms Coupe.C12.kk_sort_instance
