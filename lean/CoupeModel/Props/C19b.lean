import CoupeModel.Model.Basic
import CoupeModel.Model.Codec
import CoupeModel.Proofs.CodecAscii
import CoupeModel.Proofs.CodecTokenize
import CoupeModel.Props.C19

/-!
# C19b — MEDIT ASCII: the link bytes → tokens, and the byte-level round trip

`Props/C19.lean` proves the ASCII round trip on lines of tokens
(`meditascii_roundtrip_tokens`).  This file closes the remaining link: the exact
text the writer prints (`writeText`, byte for byte what `DisplayAscii::fmt`
emits) tokenizes (`tokenize`: split on `\n`, then on space/tab/CR/LF, drop empty
pieces, recognise keywords case-insensitively) to exactly the token lines the
token-level writer model produces (`writeTokens`) – for every mesh, with no side
condition on the mesh, and for every number syntax whose *printers* are
well-formed (`NumFmt.ShowOk`, `Proofs/CodecTokenize.lean`): every shown number is
a non-empty byte string, contains none of the separator bytes 32/9/13/10, and is
not taken for a keyword by `classify`.  Lemmas: `Proofs/CodecTokenize.lean`.
-/

namespace Coupe.Codec

/-- The text of `display_medit_ascii` tokenizes to the token lines of the
token-level writer model: for every mesh (any dimension, 0 included, any block
types, inconsistent lengths included) and every number syntax with well-formed
printers. -/
theorem meditascii_tokenize (F : NumFmt) (ok : F.ShowOk) (m : Mesh) :
    tokenize (writeText F m) = writeTokens F m := by
  obtain ⟨-, -, ⟨hM, hD, hV, hE⟩, hvhdr, htail⟩ := literals_spec
  have hhdr : mvfHeader = wMVF ++ 32 :: (two ++ 10 :: (wDimension ++ [32])) := rfl
  have htwo : NumTok two :=
    ⟨by decide, by decide, classify_raw_of_nonletter two 50 List.mem_cons_self (by decide)⟩
  simp only [writeText, hhdr, hvhdr, htail, List.append_assoc, List.cons_append, List.nil_append]
  rw [tokenize_word_num wMVF (by decide) (by decide) two htwo,
    tokenize_word_num wDimension (by decide) (by decide) _ (ok.u _), tokenize_nl,
    tokenize_line wVertices (by decide), tokenize_count _ (ok.u _), tokenize_vertText F ok,
    tokenize_blockText F ok, tokenize_nl, tokenize_last wEnd (by decide),
    tokLine_word wVertices (by decide) (by decide), tokLine_word wEnd (by decide) (by decide),
    hM, hD, hV, hE]
  simp only [writeTokens, List.append_assoc]

/-- Byte-level ASCII round trip: writing a mesh with `display_medit_ascii`,
cutting the *bytes* into lines of tokens and parsing them with `parse_ascii`
gives the same mesh.  `NumFmtOK`: Rust's `parse(display(x)) = x` contract
(trusted); `ShowOk`: the printers' well-formedness; `GoodMeshA` as in
`meditascii_roundtrip_tokens`. -/
theorem meditascii_roundtrip_bytes (F : NumFmt) (ok : NumFmtOK F) (sh : F.ShowOk) (m : Mesh)
    (g : GoodMeshA m) :
    parseTokens F (tokenize (writeText F m)) = .ok m := by
  rw [meditascii_tokenize F sh m]
  exact meditascii_roundtrip_tokens F ok m g

/-- `ShowOk` from a check on the character set (what Rust's `Display` for
`usize`, `isize`, `f64` prints: digits, `-`, `.`, and `NaN`/`inf`): it suffices
that every shown number is free of the four separator bytes and *starts* with a
byte that is not one of the letters `m d v e t q h c r` in either case (the
initials of the keywords) – in particular a digit, `-`, `+` or `.`. -/
theorem showOk_of_first_byte (F : NumFmt)
    (h : ∀ s : List Nat, ((∃ n, s = F.showU n) ∨ (∃ i, s = F.showI i) ∨ (∃ x, s = F.showF x)) →
      (∀ b ∈ s, isSep b = false) ∧
      ∃ b t, s = b :: t ∧ asciiLower b ∉ [109, 100, 118, 101, 116, 113, 104, 99, 114]) :
    F.ShowOk :=
  .of_shown F fun s hs => by
    obtain ⟨h1, b, t, rfl, h2⟩ := h s hs
    exact ⟨List.cons_ne_nil b t, h1, classify_raw_of_head b t h2⟩

/-- `ShowOk` from another check on the character set: every shown number is
non-empty, free of the separator bytes and contains at least one byte that is
not an ASCII letter (every keyword consists of letters only). -/
theorem showOk_of_nonletter (F : NumFmt)
    (h : ∀ s : List Nat, ((∃ n, s = F.showU n) ∨ (∃ i, s = F.showI i) ∨ (∃ x, s = F.showF x)) →
      (∀ b ∈ s, isSep b = false) ∧
      ∃ b ∈ s, ¬ (97 ≤ asciiLower b ∧ asciiLower b ≤ 122)) :
    F.ShowOk :=
  .of_shown F fun s hs => by
    obtain ⟨h1, b, hb, h2⟩ := h s hs
    exact ⟨List.ne_nil_of_mem hb, h1, classify_raw_of_nonletter s b hb h2⟩

/-- Non-vacuity: a decimal number syntax (`decFmt`: unsigned and signed decimal
integers, printed and parsed digit by digit) meets both contracts, so the
byte-level round trip holds for it on every good mesh. -/
theorem decFmt_ok : NumFmtOK decFmt ∧ decFmt.ShowOk :=
  ⟨⟨fun n _ => parseDec_showDec n, fun n _ => parseDec_showDec n, fun i _ => parseDecI_showDecI i,
      fun x _ => parseDec_showDec x, ⟨2, parseDec_showDec 2⟩⟩,
    ⟨numTok_showDec, numTok_showDecI, numTok_showDec⟩⟩

theorem meditascii_roundtrip_bytes_dec (m : Mesh) (g : GoodMeshA m) :
    parseTokens decFmt (tokenize (writeText decFmt m)) = .ok m :=
  meditascii_roundtrip_bytes decFmt decFmt_ok.1 decFmt_ok.2 m g

/-- the printed bytes are the expected text … -/
example : writeText decFmt ⟨2, [7, 0], [-3], [⟨.triangle, [0, 0, 0], [12]⟩]⟩ =
    strB "MeshVersionFormatted 2\nDimension 2\n\nVertices\n\t1\n 7 0 -3\n\nTriangles\n\t1\n 1 1 1 12\n\nEnd" := by
  rw [strB_eq]
  decide +kernel

/-- … and the theorem's two sides, evaluated on the sample mesh
(independent of the proof: plain kernel evaluation, `tokenize_sampleMesh`). -/
example : tokenize (writeText decFmt sampleMesh) = writeTokens decFmt sampleMesh :=
  tokenize_sampleMesh
example : (parseTokens decFmt (tokenize (writeText decFmt sampleMesh))).toOption = some sampleMesh := by
  rw [tokenize_sampleMesh]
  decide +kernel

/-- `ShowOk` is needed, its separator clause and its keyword clause: with a printer that shows a number as
one raw byte (`toyFmt` of `Props/C19.lean`, which does meet `NumFmtOK`) the
tokens differ when that byte is a separator (dimension 32 = space: the token
vanishes) and the text does not parse back; and a printer that shows 3 as
`end` produces a keyword. -/
theorem showOk_needed :
    tokenize (writeText toyFmt ⟨32, [], [], []⟩) ≠ writeTokens toyFmt ⟨32, [], [], []⟩ ∧
    parseTokens toyFmt (tokenize (writeText toyFmt ⟨32, [], [], []⟩)) ≠ .ok ⟨32, [], [], []⟩ ∧
    (let F : NumFmt := { decFmt with showU := fun n => if n = 3 then [101, 110, 100] else showDec n }
     tokenize (writeText F ⟨3, [], [], []⟩) ≠ writeTokens F ⟨3, [], [], []⟩) := by
  simp only [ne_eq, eq_ok_iff_toOption]
  decide +kernel

end Coupe.Codec

#print axioms Coupe.Codec.meditascii_tokenize
#print axioms Coupe.Codec.meditascii_roundtrip_bytes
#print axioms Coupe.Codec.showOk_of_first_byte
#print axioms Coupe.Codec.showOk_of_nonletter
#print axioms Coupe.Codec.decFmt_ok
#print axioms Coupe.Codec.meditascii_roundtrip_bytes_dec
#print axioms Coupe.Codec.showOk_needed
