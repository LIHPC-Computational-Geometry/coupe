import CoupeModel.Model.Basic
import CoupeModel.Model.Metrics
import CoupeModel.Model.Grid
import CoupeModel.Proofs.Metrics
import CoupeModel.Proofs.Imbalance
import CoupeModel.Proofs.Grid
import CoupeModel.Model.MetricsFast
import CoupeModel.Proofs.MetricsFast

/-!
# C16 — edge cut, lambda cut and imbalance agree with their definitions

`Cfg` selects which `indptr` the sprs specialisation slices with:
`{ proper := false }` is the raw storage, `{ proper := true }` is `to_proper()`,
the code as it stands (`Cfg.current`, what the driver runs).
-/

namespace Coupe.Metrics

/-- The specialisation (`take_while` on sorted indices) and the default method
(`filter`) return the same value, without panic, on every valid square view
whose `indptr` starts at 0 and every partition that covers the vertices.
Preconditions the specialisation really relies on: rows sorted (part of
`Valid`; non-strict order would do, see `edgecut_sprs_eq_generic_rows`) and,
where it slices with the raw `indptr`, **a zero-based `indptr`** (not guaranteed
by sprs, see `sprs_offset_indptr_panics`). -/
theorem edgecut_sprs_eq_generic (cfg : Cfg) (m : Csr) (p : List Nat)
    (hv : m.Valid) (hoff : m.offset = 0) (hp : m.n ≤ p.length) :
    edgeCutSprs? cfg m p = .val (edgeCutTopo m.topo p) ∧
    edgeCutGeneric? m.topo p = some (edgeCutTopo m.topo p) :=
  ⟨edgeCutSprs?_of_valid hv cfg (Or.inr hoff) p hp, if_pos (readsOk_of_valid hv p hp)⟩

/-- The same for the specialisation that slices with `to_proper()`, with no
condition on the offset. -/
theorem edgecut_sprs_eq_generic_fixed (m : Csr) (p : List Nat)
    (hv : m.Valid) (hp : m.n ≤ p.length) :
    edgeCutSprs? { proper := true } m p = .val (edgeCutTopo m.topo p) :=
  edgeCutSprs?_of_valid hv _ (Or.inl rfl) p hp

/-- Row-level form with the weakest order condition: rows sorted, repeated
indices allowed. -/
theorem edgecut_sprs_eq_generic_rows (t : Topo) (p : List Nat)
    (hs : ∀ v, v < t.len → (t.nbrs v).Pairwise (fun a b => a.1 ≤ b.1)) :
    edgeCutSprsRows t.len t.nbrs p = edgeCutTopo t p :=
  edgeCutSprsRows_eq_topo t p hs

/-- FINDING (defect of /repo, since repaired there).  A valid square view whose
`indptr` starts at 2 (`slice_outer(2..5)` of a 5×3 matrix: the path 0–1–2 with
weights 7, 9): the default method answers 16, the specialisation slicing with
the raw `indptr` panics on a slice index; with `to_proper()` it answers 16.
Same for `lambda_cut`. -/
theorem sprs_offset_indptr_panics :
    let m : Csr := ⟨[2, 3, 5, 6], [1, 0, 2, 1], [7, 7, 9, 9]⟩
    m.Valid ∧
    edgeCutGeneric? m.topo [0, 1, 0] = some 16 ∧
    edgeCutSprs? { proper := false } m [0, 1, 0] = .panicSlice ∧
    edgeCutSprs? { proper := true } m [0, 1, 0] = .val 16 ∧
    lambdaGeneric? m.topo [0, 1, 0] [1, 1, 1] = some 3 ∧
    lambdaSprs? { proper := false } m [0, 1, 0] [1, 1, 1] = .panicSlice ∧
    lambdaSprs? { proper := true } m [0, 1, 0] [1, 1, 1] = .val 3 := by
  decide +kernel

/-- The order condition is needed: on an unsorted row `take_while` stops early. -/
theorem sprs_unsorted_rows_differ :
    let m : Csr := ⟨[0, 0, 0, 2], [1, 0], [5, 3]⟩
    edgeCutGeneric? m.topo [0, 0, 1] = some 8 ∧ edgeCutSprs? Cfg.current m [0, 0, 1] = .val 8 ∧
    (let m' : Csr := ⟨[0, 0, 0, 2], [2, 0], [5, 3]⟩
     edgeCutGeneric? m'.topo [0, 0, 1] = some 3 ∧ edgeCutSprs? Cfg.current m' [0, 0, 1] = .val 0) := by
  decide +kernel

/-- What `edge_cut` computes on *any* topology (symmetric or not): the sum, over
the pairs `j < i` lying in different parts, of the entry `(i, j)` – every
unordered pair is read once, below the diagonal. -/
theorem edgecut_lower (t : Topo) (p : List Nat) :
    edgeCutTopo t p =
      sumTo t.len (fun i => sumTo i (fun j =>
        if part p i ≠ part p j then entry (t.nbrs i) j else 0)) :=
  edgeCutTopo_eq_lower t p

/-- For a symmetric adjacency matrix the value is the edge cut of the
definition: twice the cut = sum over all ordered pairs in different parts. -/
theorem edgecut_def (t : Topo) (p : List Nat) (hsym : Symmetric t) :
    2 * edgeCutTopo t p =
      sumTo t.len (fun i => sumTo t.len (fun j =>
        if part p i ≠ part p j then entry (t.nbrs i) j else 0)) := by
  rw [edgeCutTopo_eq_lower]
  symm
  apply sumTo_square_eq_two_triangle t.len
    (fun i j => if part p i ≠ part p j then entry (t.nbrs i) j else 0)
  · intro i _; simp
  · intro i j hi hj
    simp only [hsym i j hi hj, ne_comm (a := part p i)]

/-- Without symmetry the entries above the diagonal are ignored: the 2×2 matrix
whose only entry is `(0,1) = 5` has edge cut 0 through both code paths. -/
theorem edgecut_ignores_upper_triangle :
    let m : Csr := ⟨[0, 1, 1], [1], [5]⟩
    m.Valid ∧ edgeCutGeneric? m.topo [0, 1] = some 0 ∧ edgeCutSprs? Cfg.current m [0, 1] = .val 0 := by
  decide +kernel

/-- Definition: `lambda_cut` = Σ over the vertices that have a weight of
`weight × (number of distinct parts in the closed neighbourhood − 1)`
= `weight × number of foreign parts among the neighbours`. -/
theorem lambda_def (t : Topo) (p : List Nat) (ws : List Int) :
    lambdaTopo t p ws =
      sumTo (min t.len ws.length) (fun v =>
        Int.ofNat (((v :: (t.nbrs v).map (·.1)).map (part p)).toFinset.card - 1) * ws.getD v 0) ∧
    lambdaTopo t p ws =
      sumTo (min t.len ws.length) (fun v =>
        Int.ofNat ((((t.nbrs v).map (·.1)).map (part p)).toFinset.erase (part p v)).card
          * ws.getD v 0) := by
  unfold lambdaTopo lambdaRows
  constructor
  · exact sumTo_congr (fun v _ => by rw [lambdaRow_eq_closed])
  · exact sumTo_congr (fun v _ => by rw [lambdaRow_eq_foreign])

/-- Specialisation = default method = the definition, on every valid zero-based
view (any number of weights: the `zip` stops at the shorter). -/
theorem lambda_eq (cfg : Cfg) (m : Csr) (p : List Nat) (ws : List Int)
    (hv : m.Valid) (hoff : m.offset = 0) (hp : m.n ≤ p.length) :
    lambdaSprs? cfg m p ws = .val (lambdaTopo m.topo p ws) ∧
    lambdaGeneric? m.topo p ws = some (lambdaTopo m.topo p ws) :=
  ⟨lambdaSprs?_of_valid hv cfg (Or.inr hoff) p ws hp, if_pos (lambdaReadsOk_of_valid hv p ws hp)⟩

/-- `edge_cut` and `lambda_cut` depend only on the *multiset* of `(neighbour,
weight)` pairs of every vertex: a valid zero-based CSR view whose rows are a
permutation of the topology's neighbour lists gives, through the
specialisation, what the default methods give on the topology itself. -/
theorem topo_eq_csr (cfg : Cfg) (t : Topo) (m : Csr) (p : List Nat) (ws : List Int)
    (hv : m.Valid) (hoff : m.offset = 0) (hn : m.n = t.len)
    (hrows : ∀ v, v < t.len → (m.row v).Perm (t.nbrs v)) (hp : t.len ≤ p.length) :
    edgeCutSprs? cfg m p = .val (edgeCutTopo t p) ∧
    lambdaSprs? cfg m p ws = .val (lambdaTopo t p ws) := by
  have hrows' : ∀ v, v < m.topo.len → (m.topo.nbrs v).Perm (t.nbrs v) :=
    fun v hv' => hrows v (hn ▸ hv')
  exact ⟨(edgeCutSprs?_of_valid hv cfg (Or.inr hoff) p (by omega)).trans
      (congrArg Outcome.val (edgeCutTopo_perm p hn hrows')),
    (lambdaSprs?_of_valid hv cfg (Or.inr hoff) p ws (by omega)).trans
      (congrArg Outcome.val (lambdaTopo_perm p ws hn hrows'))⟩

end Coupe.Metrics

namespace Coupe.Grid
open Coupe.Metrics

/-- `index_of ∘ position_of = id` on `0..len`, and positions are in range. -/
theorem index_position :
    (∀ w h i, 0 < w → i < w * h →
      indexOf2 w (positionOf2 w i) = i ∧ (positionOf2 w i).1 < w ∧ (positionOf2 w i).2 < h) ∧
    (∀ w h d i, 0 < w → 0 < h → i < w * h * d →
      indexOf3 w h (positionOf3 w h i) = i ∧ (positionOf3 w h i).1 < w ∧
        (positionOf3 w h i).2.1 < h ∧ (positionOf3 w h i).2.2 < d) := by
  refine ⟨fun w h i hw hi =>
      ⟨indexOf2_positionOf2 w i, Nat.mod_lt _ hw, (div_lt_iff hw i h).mpr hi⟩,
    fun w h d i hw hh hi => ?_⟩
  rw [Nat.mul_assoc, ← div_lt_iff hw, ← div_lt_iff hh] at hi
  refine ⟨?_, Nat.mod_lt _ hw, Nat.mod_lt _ hh, hi⟩
  rw [positionOf3_eq, indexOf3_eq, indexOf2_positionOf2]
  exact indexOf2_positionOf2 w i

/-- `position_of ∘ index_of = id` on in-range positions, and indices are in
range: with `index_position`, a bijection between `0..len` and the box. -/
theorem position_index :
    (∀ w h x y, x < w → y < h →
      positionOf2 w (indexOf2 w (x, y)) = (x, y) ∧ indexOf2 w (x, y) < w * h) ∧
    (∀ w h d x y z, x < w → y < h → z < d →
      positionOf3 w h (indexOf3 w h (x, y, z)) = (x, y, z) ∧ indexOf3 w h (x, y, z) < w * h * d) := by
  have h2 : ∀ w h x y, x < w → y < h →
      positionOf2 w (indexOf2 w (x, y)) = (x, y) ∧ indexOf2 w (x, y) < w * h :=
    fun w h x y hx hy => ⟨positionOf2_indexOf2 hx y, indexOf2_lt w h x y hx hy⟩
  refine ⟨h2, fun w h d x y z hx hy hz => ?_⟩
  obtain ⟨e, l⟩ := h2 w (h * d) x _ hx (indexOf2_lt h d y z hy hz)
  rw [Nat.mul_assoc, indexOf3_eq, positionOf3_eq]
  refine ⟨?_, l⟩
  rw [show _ % w = x from congrArg Prod.fst e, show _ / w = _ from congrArg Prod.snd e,
    positionOf2_indexOf2 hy]

/-- The iterator yields exactly the in-range cells at L1 distance 1. -/
theorem grid_nbrs :
    (∀ w h i j, 0 < w → i < w * h →
      (j ∈ neighbors2 w h i ↔ j < w * h ∧ dist2 (positionOf2 w i) (positionOf2 w j) = 1)) ∧
    (∀ w h d i j, 0 < w → 0 < h → i < w * h * d →
      (j ∈ neighbors3 w h d i ↔
        j < w * h * d ∧ dist3 (positionOf3 w h i) (positionOf3 w h j) = 1)) :=
  ⟨fun _ _ _ _ hw hi => mem_neighbors2 hw hi, fun _ _ _ _ _ hw hh hi => mem_neighbors3 hw hh hi⟩

/-- The neighbour relation is symmetric. -/
theorem grid_nbrs_symm :
    (∀ w h i j, 0 < w → i < w * h → j < w * h →
      (j ∈ neighbors2 w h i ↔ i ∈ neighbors2 w h j)) ∧
    (∀ w h d i j, 0 < w → 0 < h → i < w * h * d → j < w * h * d →
      (j ∈ neighbors3 w h d i ↔ i ∈ neighbors3 w h d j)) := by
  constructor
  · intro w h i j hw hi hj
    rw [mem_neighbors2 hw hi, mem_neighbors2 hw hj, dist2_comm, and_iff_right hj, and_iff_right hi]
  · intro w h d i j hw hh hi hj
    rw [mem_neighbors3 hw hh hi, mem_neighbors3 hw hh hj, dist3_comm, and_iff_right hj,
      and_iff_right hi]

/-- No cell is yielded twice: the lattice has no multiple edge, every edge has
weight one. -/
theorem grid_nbrs_nodup :
    (∀ w h i, 0 < w → i < w * h → (neighbors2 w h i).Nodup) ∧
    (∀ w h d i, 0 < w → 0 < h → i < w * h * d → (neighbors3 w h d i).Nodup) :=
  ⟨fun w h i hw _ => neighbors2_nodup w h i hw,
   fun w h d i hw hh _ => neighbors3_nodup w h d i hw hh⟩

/-- The default methods never panic on a grid once the partition covers it. -/
theorem grid_total (p : List Nat) :
    (∀ w h, 0 < w → w * h ≤ p.length →
      edgeCutGeneric? (topo2 w h) p = some (edgeCutTopo (topo2 w h) p)) ∧
    (∀ w h d, 0 < w → 0 < h → w * h * d ≤ p.length →
      edgeCutGeneric? (topo3 w h d) p = some (edgeCutTopo (topo3 w h d) p)) := by
  constructor
  · intro w h hw hp
    refine if_pos (readsOk_of_inRange (topo2 w h) p hp fun v hv e he => ?_)
    obtain ⟨u, hu, rfl⟩ := List.mem_map.mp he
    exact ((mem_neighbors2 hw hv).mp hu).1
  · intro w h d hw hh hp
    refine if_pos (readsOk_of_inRange (topo3 w h d) p hp fun v hv e he => ?_)
    obtain ⟨u, hu, rfl⟩ := List.mem_map.mp he
    exact ((mem_neighbors3 hw hh hv).mp hu).1

/-- Edge cut and lambda cut of the `Grid` topology = those of the CSR lattice
with the same neighbours, through the specialisation: for the sorted rows the
driver uses (`latticeRows`) and for every valid zero-based CSR view whose rows
are permutations of the grid's neighbour lists (`topo_eq_csr`). -/
theorem grid_eq_csr (cfg : Cfg) (t : Topo) (p : List Nat) (ws : List Int) :
    edgeCutSprsRows t.len (latticeRows t) p = edgeCutTopo t p ∧
    lambdaRows t.len (fun v => (latticeRows t v).map (·.1)) p ws = lambdaTopo t p ws ∧
    (∀ m : Csr, m.Valid → m.offset = 0 → m.n = t.len →
      (∀ v, v < t.len → (m.row v).Perm (t.nbrs v)) → t.len ≤ p.length →
      edgeCutSprs? cfg m p = .val (edgeCutTopo t p) ∧
      lambdaSprs? cfg m p ws = .val (lambdaTopo t p ws)) := by
  refine ⟨?_,
    lambdaTopo_perm (t := ⟨t.len, latticeRows t⟩) p ws rfl fun v _ => latticeRows_perm t v,
    fun m hv hoff hn hrows hp => topo_eq_csr cfg t m p ws hv hoff hn hrows hp⟩
  rw [edgeCutSprsRows_eq_topo ⟨t.len, latticeRows t⟩ p fun v _ => latticeRows_sorted t v]
  exact edgeCutTopo_perm p rfl fun v _ => latticeRows_perm t v

/-- Non-vacuity of `topo_eq_csr`/`grid_eq_csr`: the CSR lattice of the 2×2 and
of the 2×2×2 grid meet the hypotheses. -/
example :
    let m : Csr := ⟨[0, 2, 4, 6, 8], [1, 2, 0, 3, 0, 3, 1, 2], [1, 1, 1, 1, 1, 1, 1, 1]⟩
    m.Valid ∧ m.offset = 0 ∧ m.n = (topo2 2 2).len ∧
      ∀ v, v < (topo2 2 2).len → (m.row v).Perm ((topo2 2 2).nbrs v) := by
  decide +kernel

example :
    let m : Csr := ⟨[0, 3, 6, 9, 12, 15, 18, 21, 24],
      [1, 2, 4, 0, 3, 5, 0, 3, 6, 1, 2, 7, 0, 5, 6, 1, 4, 7, 2, 4, 7, 3, 5, 6],
      List.replicate 24 1⟩
    m.Valid ∧ m.offset = 0 ∧ m.n = (topo3 2 2 2).len ∧
      ∀ v, v < (topo3 2 2 2).len → (m.row v).Perm ((topo3 2 2 2).nbrs v) := by
  decide +kernel

end Coupe.Grid

namespace Coupe.Metrics

/-- Non-vacuity of `edgecut_sprs_eq_generic`, `lambda_eq`, `edgecut_def`: a
valid zero-based symmetric matrix with an empty row and a two-part partition. -/
example :
    let m : Csr := ⟨[0, 2, 3, 3, 4], [1, 3, 0, 0], [4, 6, 4, 6]⟩
    m.Valid ∧ m.offset = 0 ∧ m.n ≤ [0, 1, 1, 0].length ∧
      edgeCutSprs? Cfg.current m [0, 1, 1, 0] = .val 4 ∧ lambdaSprs? Cfg.current m [0, 1, 1, 0] [2, 3, 5, 7] = .val 5 := by
  decide +kernel

/-- `compute_parts_load` = the vector of part loads `Σ_{i : part i = j} w i`
(`Coupe.loads`), exactly when its assertion passes (`num_parts > 0` and every
part id below it); the `zip` drops what exceeds the shorter input. -/
theorem loads_def (p : List Nat) (k : Nat) (ws : List Int) :
    (0 < k → (∀ x ∈ p, x < k) → computePartsLoad? p k ws = some (Coupe.loads ws p k)) ∧
    (∀ l, computePartsLoad? p k ws = some l → l = Coupe.loads ws p k ∧ 0 < k ∧ ∀ x ∈ p, x < k) := by
  refine ⟨computePartsLoad?_of_inRange p k ws, fun l h => ?_⟩
  rw [computePartsLoad?_eq, Option.ite_none_right_eq_some] at h
  exact ⟨(Option.some.inj h.2).symm, h.1⟩

/-- `max_imbalance` = greatest load − least load. -/
theorem max_imbalance_def (k : Nat) (p : List Nat) (ws : List Int)
    (hk : 0 < k) (hp : ∀ x ∈ p, x < k) :
    ∃ a b, a ∈ Coupe.loads ws p k ∧ b ∈ Coupe.loads ws p k ∧
      (∀ x ∈ Coupe.loads ws p k, a ≤ x ∧ x ≤ b) ∧ maxImbalance? k p ws = some (b - a) := by
  obtain ⟨a, b, hmm, ha, hb, hall⟩ := minmax_spec (Coupe.loads ws p k) (loads_ne_nil ws p hk)
  refine ⟨a, b, ha, hb, hall, ?_⟩
  unfold maxImbalance?
  rw [computePartsLoad?_of_inRange p k ws hk hp]
  show (match minmax ltb (Coupe.loads ws p k) with
    | none => some 0
    | some (mn, mx) => some (mx - mn)) = some (b - a)
  rw [hmm]

/-- `imbalance_target` = greatest `load − target`. -/
theorem imbalance_target_def (ts : List Int) (p : List Nat) (ws : List Int)
    (hk : 0 < ts.length) (hp : ∀ x ∈ p, x < ts.length) :
    ∃ m, imbalanceTarget? ts p ws = some m ∧
      m ∈ ((Coupe.loads ws p ts.length).zip ts).map (fun e => e.1 - e.2) ∧
      ∀ x ∈ ((Coupe.loads ws p ts.length).zip ts).map (fun e => e.1 - e.2), x ≤ m := by
  have hne : ((Coupe.loads ws p ts.length).zip ts).map (fun e => e.1 - e.2) ≠ [] := by
    intro h
    have := congrArg List.length h
    rw [List.length_map, List.length_zip, length_loads, List.length_nil] at this
    omega
  obtain ⟨m, hm, hmem, hall⟩ := maxOf_spec _ hne
  refine ⟨m, ?_, hmem, hall⟩
  unfold imbalanceTarget?
  rw [computePartsLoad?_of_inRange p ts.length ws hk hp]
  simp only [hm, Option.getD_some]

/-- `imbalance`, the same expression evaluated over `ℚ`: the greatest relative
deviation `relDev K T L_j = (K·L_j − T)/T` of a part load from the ideal load
`T/K` (`T` = total weight ≠ 0, `K` = number of parts). -/
theorem imbalance_def (k : Nat) (p : List Nat) (ws : List Int)
    (hlen : p.length = ws.length) (hk : 0 < k) (hp : ∀ x ∈ p, x < k)
    (hT : (Coupe.loads ws p k).sum ≠ 0) :
    ∃ r, imbalanceWith ratArith k p ws = some r ∧
      r ∈ (Coupe.loads ws p k).map (relDev k (Coupe.loads ws p k).sum) ∧
      ∀ x ∈ (Coupe.loads ws p k).map (relDev k (Coupe.loads ws p k).sum), x ≤ r := by
  have hne : (Coupe.loads ws p k).map (relDev k (Coupe.loads ws p k).sum) ≠ [] :=
    fun h => loads_ne_nil ws p hk (List.map_eq_nil_iff.mp h)
  obtain ⟨a, b, hmm, -, hb, hall⟩ := minmax_spec _ hne
  refine ⟨b, ?_, hb, fun x hx => (hall x hx).2⟩
  rw [imbalanceWith_ratArith k p ws hlen hk hp, if_neg hT, hmm]

/-- The two guarded cases of `imbalance`: no part, or zero total weight ⇒ 0. -/
theorem imbalance_zero (k : Nat) (p : List Nat) (ws : List Int) (hlen : p.length = ws.length) :
    (k = 0 → imbalanceWith ratArith k p ws = some 0) ∧
    (0 < k → (∀ x ∈ p, x < k) → (Coupe.loads ws p k).sum = 0 →
      imbalanceWith ratArith k p ws = some 0) := by
  constructor
  · intro hk
    unfold imbalanceWith
    rw [if_neg (by omega), if_pos hk]
    rfl
  · intro hk hp hT
    rw [imbalanceWith_ratArith k p ws hlen hk hp, if_pos hT]

/-- Non-vacuity of the imbalance theorems (3 parts, loads 5 / 3 / 0). -/
example : computePartsLoad? [0, 1, 0, 1] 3 [2, 1, 3, 2] = some [5, 3, 0] ∧
    maxImbalance? 3 [0, 1, 0, 1] [2, 1, 3, 2] = some 5 ∧
    imbalanceTarget? [4, 4, 1] [0, 1, 0, 1] [2, 1, 3, 2] = some 1 := by decide +kernel

/-- The array-backed evaluator the driver runs on the LARGE cases
(`Model/MetricsFast.lean`) computes exactly the model's values. -/
theorem fast_eval_eq_model (t : Topo) (n : Nat) (rows : Nat → Row) (nbIds : Nat → List Nat)
    (p : Array Nat) (ws : Array Int) :
    edgeCutTopoA t p = edgeCutTopo t p.toList ∧
    edgeCutSprsRowsA n rows p = edgeCutSprsRows n rows p.toList ∧
    lambdaRowsA n nbIds p ws = lambdaRows n nbIds p.toList ws.toList := by
  refine ⟨?_, ?_, ?_⟩
  · simp only [edgeCutTopoA, edgeCutTopo, rowCutGenericA, rowCutGeneric, sumToAcc_eq, partA_eq,
      Int.zero_add]
  · simp only [edgeCutSprsRowsA, edgeCutSprsRows, rowCutSprsA, rowCutSprs, sumToAcc_eq, partA_eq,
      Int.zero_add]
  · simp only [lambdaRowsA, lambdaRows, lambdaRowA, lambdaRow, sumToAcc_eq, partA_eq, getD_toList,
      Array.length_toList, Int.zero_add]

end Coupe.Metrics

#print axioms Coupe.Metrics.edgecut_sprs_eq_generic
#print axioms Coupe.Metrics.edgecut_sprs_eq_generic_fixed
#print axioms Coupe.Metrics.edgecut_sprs_eq_generic_rows
#print axioms Coupe.Metrics.sprs_offset_indptr_panics
#print axioms Coupe.Metrics.sprs_unsorted_rows_differ
#print axioms Coupe.Metrics.edgecut_lower
#print axioms Coupe.Metrics.edgecut_def
#print axioms Coupe.Metrics.edgecut_ignores_upper_triangle
#print axioms Coupe.Metrics.lambda_def
#print axioms Coupe.Metrics.lambda_eq
#print axioms Coupe.Metrics.topo_eq_csr
#print axioms Coupe.Grid.index_position
#print axioms Coupe.Grid.position_index
#print axioms Coupe.Grid.grid_nbrs
#print axioms Coupe.Grid.grid_nbrs_symm
#print axioms Coupe.Grid.grid_nbrs_nodup
#print axioms Coupe.Grid.grid_total
#print axioms Coupe.Grid.grid_eq_csr
#print axioms Coupe.Metrics.loads_def
#print axioms Coupe.Metrics.max_imbalance_def
#print axioms Coupe.Metrics.imbalance_target_def
#print axioms Coupe.Metrics.imbalance_def
#print axioms Coupe.Metrics.imbalance_zero
#print axioms Coupe.Metrics.fast_eval_eq_model
