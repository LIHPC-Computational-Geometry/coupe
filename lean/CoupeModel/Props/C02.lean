import CoupeModel.Model.KMeansAbs
import CoupeModel.Proofs.KMeansAbs
import CoupeModel.Proofs.EntryChecks
import CoupeModel.Props.C14
import CoupeModel.Props.C15
import CoupeModel.Props.C07
import CoupeModel.Props.C05

/-!
# C02 — Partition-improving algorithms keep a valid partition valid

Property theorems only.  C02 is partly an umbrella:

* **KMeans** is owned here (`Model/KMeansAbs.lean`, lemmas in `Proofs/KMeansAbs.lean`): the
  numerical part of the algorithm is a parameter (`best`), the theorems hold for EVERY
  sequence of `best` functions the code can produce (values drawn from `center_ids`).
* **VnBest / VnFirst** (`Model/Vn.lean`, C14), **KernighanLin** (`Model/Kl.lean`, C15) and
  **FiducciaMattheyses** (`Model/Fm.lean`, C07) have exact models owned by those properties;
  the theorems below restate what C02 needs in C02's wording and are proved from the owners'
  theorems (`vnbest_total_preserved`, `vnbest_terminates`, `vnfirst_total_preserved`,
  `vnfirst_terminates`, `kl_ids`, `kl_total`, `fm_ids`, `fm_total`).
* **ArcSwap** (`Model/ArcSwap.lean`, C05: a transition system over the hooked shared-memory
  accesses, every interleaving): `arcswap_keeps_valid` (every `Ok` outcome under every schedule,
  and every intermediate state) from `arcswap_correct` / `ids_valid`.  Totality of ArcSwap:
  `arcswap_total` (the full `arcswap_total_statement`), from C05's `arcswap_terminates`.
-/

namespace Coupe.C02

open Coupe.KMeansAbs

/-! ## KMeans -/

/-- Every id KMeans returns is one of the input's own ids (`center_ids`), hence at most the
largest id of the input – for every sequence of `best` functions, with or without the K5 fix. -/
theorem kmeans_ids_subset (cfg : Cfg) (ids : List Nat) (bs : List (Best (centerIds ids)))
    (out : List Nat) (h : run cfg ids bs = .ok out) :
    ∀ x ∈ out, x ∈ centerIds ids ∧ x ∈ ids ∧ x ≤ maxId ids := by
  intro x hx
  have h1 := (run_ok h).2 x hx
  have h2 := (mem_centerIds x ids).1 h1
  exact ⟨h1, h2, le_maxId h2⟩

/-- Elements are only relabelled: the array keeps its length (and by `kmeans_ids_subset`
no entry is left unassigned – every entry is a part id of the input). -/
theorem kmeans_length (cfg : Cfg) (ids : List Nat) (bs : List (Best (centerIds ids)))
    (out : List Nat) (h : run cfg ids bs = .ok out) : out.length = ids.length :=
  (run_ok h).1

/-- The prologue panics ("Input partition is unsound") exactly on inputs with at least two
parts that are NOT valid partitions: validity is the usage contract of KMeans. -/
theorem kmeans_unsound_iff (cfg : Cfg) (ids : List Nat) (bs : List (Best (centerIds ids))) :
    run cfg ids bs = .panicUnsound ↔ 1 ≤ maxId ids ∧ ¬ Valid ids := by
  refine ⟨fun h => ?_, fun ⟨h1, hv⟩ => run_of_not_valid cfg bs h1 hv⟩
  by_cases h1 : 1 ≤ maxId ids
  · refine ⟨h1, fun hv => ?_⟩
    rw [run_of_valid cfg bs h1 hv] at h
    exact sweeps_ne_unsound _ _ _ _ h
  · rw [run_of_maxId_zero cfg bs (by omega)] at h
    cases h

/-- Totality (since a825009, the fix of K5): on a valid partition the run returns `Ok` for
every sequence of `best` functions – no abort, whatever clusters lose all their points. -/
theorem kmeans_total (ids : List Nat) (bs : List (Best (centerIds ids))) (hv : Valid ids) :
    ∃ out, run {} ids bs = .ok out := by
  by_cases h1 : 1 ≤ maxId ids
  · rw [run_of_valid {} bs h1 hv]
    exact sweeps_total rfl _ _ _
  · exact ⟨ids, run_of_maxId_zero {} bs (by omega)⟩

/-- The `best` function that sends every point to the first centre. -/
def allToFirst (cids : List Nat) : Best cids where
  f _ := cids.head?
  mem := by
    intro _ c h
    exact List.mem_of_mem_head? h

/-- K5 regression witness (DESIGN §5: points `(0,0),(0,0),(2,0),(2,0)`, ids `[0,1,0,1]`): with
the behaviour before a825009 a sweep that sends every point to the first centre leaves cluster 1
without points and the recentring aborts; the repaired code returns `[0,0,0,0]`. -/
theorem kmeans_empty_cluster_counterexample :
    run { oldPanicOnEmpty := true } [0,1,0,1] [allToFirst _] = .panicCenterEmpty ∧
    run {} [0,1,0,1] [allToFirst _] = .ok [0,0,0,0] ∧ Valid [0,1,0,1] := by
  refine ⟨by decide +kernel, by decide +kernel, (validB_iff _).1 (by decide +kernel)⟩

/-- …and that is not special to the witness: before the fix EVERY valid input with at least two
parts had an aborting run (its first sweep sends every point to the first centre). -/
theorem kmeans_empty_cluster_always (ids : List Nat) (hv : Valid ids) (h2 : 1 ≤ maxId ids)
    (bs : List (Best (centerIds ids))) :
    run { oldPanicOnEmpty := true } ids (allToFirst _ :: bs) = .panicCenterEmpty := by
  rw [run_of_valid _ _ h2 hv]
  simp only [List.map_cons, sweeps, Bool.true_and]
  exact if_pos (emptied_sweep_head (nodup_centerIds ids)
    (by rw [(valid_iff_length_centerIds ids).1 hv]; omega) ids)

/-- The decidable check the driver applies to every recorded sweep is exactly the model's step
relation: `after` is a legal successor of `before` iff some `best` function (with values in
`cids`) produces it. -/
theorem kmeans_legal_step_iff (cids before after : List Nat) :
    legalStep cids before after = true ↔ ∃ b : Best cids, sweep b.f before = after := by
  constructor
  · intro h; exact ⟨bestOf cids after, sweep_bestOf h⟩
  · rintro ⟨b, rfl⟩; exact legalStep_of_sweep b before

/-- Non-vacuity: a valid three-part input (hypothesis of `kmeans_total`) on which two sweeps do
real work; a run with a centre-id permuted `best`; an invalid input (id 1 unused). -/
example : Valid [2,0,1,1,0] := (validB_iff _).1 (by decide +kernel)
example : run {} [2,0,1,1,0] [bestOf _ [2,2,1,0,0], bestOf _ [1,2,1,0,2]] = .ok [1,2,1,0,2] := by
  decide +kernel
example : run {} [0,2,2] [] = .panicUnsound := by decide +kernel
example : legalStep [2,0,1] [2,0,1,1,0] [2,2,1,0,0] = true ∧
    legalStep [2,0,1] [2,0,1,1,0] [2,3,1,0,0] = false := by decide +kernel

/-! ## VnBest, VnFirst (owner: C14) -/

theorem vn_maxId_eq (ids : List Nat) (i : Nat) (h : i < Coupe.Vn.partCount ids) :
    i ≤ Coupe.Vn.maxId ids := by
  unfold Coupe.Vn.partCount at h; omega

/-- VnBest returns (no panic, no hang: `.abort` covers both) on EVERY input, and an `Ok` run
only relabels: same length, every id at most the largest id of the input. -/
theorem vnbest_keeps_valid (cfg : Coupe.Vn.Cfg) (ids : List Nat) (ws : List Int) :
    Coupe.VnBest.run cfg ids ws ≠ .abort ∧
    ∀ ids' c, Coupe.VnBest.run cfg ids ws = .ok ids' c →
      ids'.length = ids.length ∧ ∀ i ∈ ids', i ≤ Coupe.Vn.maxId ids := by
  refine ⟨Coupe.Vn.vnbest_terminates cfg ids ws, fun ids' c h => ?_⟩
  obtain ⟨h1, h2, -⟩ := Coupe.Vn.vnbest_total_preserved cfg ids ids' ws c h
  exact ⟨h1, fun i hi => vn_maxId_eq ids i (h2 i hi)⟩

/-- VnFirst (the code as it is now, D7 repaired: `breakAfterMove`), weights non-negative when the
weight type is unsigned: the same. -/
theorem vnfirst_keeps_valid (cfg : Coupe.Vn.Cfg) (hb : cfg.breakAfterMove = true)
    (ids : List Nat) (ws : List Int) (hu : cfg.unsigned = true → ∀ w ∈ ws, 0 ≤ w) :
    Coupe.VnFirst.run cfg ids ws ≠ .abort ∧
    ∀ ids' c, Coupe.VnFirst.run cfg ids ws = .ok ids' c →
      ids'.length = ids.length ∧ ∀ i ∈ ids', i ≤ Coupe.Vn.maxId ids := by
  refine ⟨Coupe.Vn.vnfirst_terminates cfg hb ids ws hu, fun ids' c h => ?_⟩
  obtain ⟨h1, h2, -⟩ := Coupe.Vn.vnfirst_total_preserved cfg hb ids ids' ws c hu h
  exact ⟨h1, fun i hi => vn_maxId_eq ids i (h2 i hi)⟩

/-! ## KernighanLin (owner: C15) -/

/-- KernighanLin on a well-formed graph and a two-way partition with both parts non-empty
returns (no panic, pass loop terminates) for every value of its limits, and the output has the
input's length and uses exactly the input's two labels (for the valid two-way partition
`{0,1}`: stays within `{0,1}`). -/
theorem kl_keeps_valid (g : Coupe.Kl.Graph) (wlen : Nat) (mp mf : Option Nat) (mb : Nat)
    (p : List Nat) (hwf : Coupe.Kl.WF g p.length) (h2 : Coupe.Kl.TwoWay p) :
    ∃ out, Coupe.Kl.run {} g wlen mp mf mb p = .ok out ∧
      out.length = p.length ∧ ∀ x, x ∈ out ↔ x ∈ p := by
  obtain ⟨out, h⟩ := Coupe.Kl.kl_total g wlen mp mf mb p hwf h2
  exact ⟨out, h, Coupe.Kl.kl_ids g wlen mp mf mb p out h⟩

theorem kl_stays_01 (g : Coupe.Kl.Graph) (wlen : Nat) (mp mf : Option Nat) (mb : Nat)
    (p out : List Nat) (h01 : ∀ x ∈ p, x ≤ 1)
    (h : Coupe.Kl.run {} g wlen mp mf mb p = .ok out) : ∀ x ∈ out, x ≤ 1 :=
  fun x hx => h01 x (((Coupe.Kl.kl_ids g wlen mp mf mb p out h).2 x).1 hx)

/-! ## FiducciaMattheyses (owner: C07) -/

/-- FiducciaMattheyses on a valid graph (symmetric, loop-free, non-negative edge weights), a
two-way partition and matching lengths returns `Ok` – for every `HashSet` iteration order `ch`,
every parameter setting and cap – and the output has the input's length and stays in `{0,1}`. -/
theorem fm_keeps_valid (ch : Nat → Nat → Nat) (prm : Coupe.Fm.Params) (capOpt : Option Int)
    (g : Coupe.Fm.Graph) (ws : List Int) (p : List Nat) (V : Coupe.Fm.Valid g)
    (hw : p.length = ws.length) (hg : p.length = g.length) (h01 : ∀ i ∈ p, i ≤ 1) :
    ∃ r, Coupe.Fm.run ch prm capOpt g ws p = .ok r ∧
      r.part.length = p.length ∧ ∀ i ∈ r.part, i ≤ 1 := by
  rcases Coupe.Fm.run_ok_or_abort ch prm capOpt hw hg h01 with ⟨r, hr⟩ | ⟨a, ha⟩
  · exact ⟨r, hr, Coupe.Fm.fm_ids ch prm capOpt g ws p r hr⟩
  · exact absurd ha (Coupe.Fm.fm_total ch prm capOpt g ws p V a)

/-! ## ArcSwap (owner: C05) -/

/-- ArcSwap, every pool size, EVERY thread interleaving (`scheds`: one schedule per pass, any
list of task ids): an `Ok` outcome has the input's length and every id is below
`part_count = max(2, 1 + max id)` (`arc_swap.rs`, in `partition`, before the call of `arc_swap`) – so for an input with at least two
parts (largest id ≥ 1; in particular every valid partition with ≥ 2 parts) no id exceeds the
largest id of the input; for a one-part input ids stay ≤ 1.  Hypotheses (`Hyp`): the usage
contract – square CSR graph with in-range indices, symmetric, loop-free, vertex weights ≥ 0. -/
theorem arcswap_keeps_valid (g : Coupe.ArcSwap.Graph) (w : List Int) (p₀ : List Nat) (maxPw : Int)
    (threads : Nat) (hy : Coupe.ArcSwap.Hyp (Coupe.ArcSwap.mkCfg g w p₀ maxPw threads) p₀)
    (scheds : List (List Nat)) (fuel passes : Nat) (ids : List Nat) (md : Coupe.ArcSwap.Metadata)
    (tr : List (List (Nat × Coupe.ArcSwap.Event)))
    (hr : Coupe.ArcSwap.run (Coupe.ArcSwap.mkCfg g w p₀ maxPw threads) p₀ scheds fuel passes
      = (.ok ids md, tr)) :
    ids.length = p₀.length ∧ (∀ p ∈ ids, p ≤ max 1 (p₀.foldl max 0)) ∧
      (1 ≤ p₀.foldl max 0 → ∀ p ∈ ids, p ≤ p₀.foldl max 0) := by
  obtain ⟨h1, h2, -⟩ := Coupe.ArcSwap.arcswap_correct hy hr
  -- `part_count` of `mkCfg` is `max 2 (1 + largest id)`
  have h2' : ∀ p ∈ ids, p < max 2 (1 + p₀.foldl max 0) := h2
  exact ⟨h1, fun p hp => by have := h2' p hp; omega, fun h p hp => by have := h2' p hp; omega⟩

/-- …and not only at the end: in EVERY state reachable by any interleaving of the tasks' steps
(what another thread, or the caller after a panic elsewhere, could observe) the array has the
input's length and every entry is a part id below `part_count` – no element is ever left
unassigned or out of range. -/
theorem arcswap_keeps_valid_always (g : Coupe.ArcSwap.Graph) (w : List Int) (p₀ : List Nat)
    (maxPw : Int) (threads : Nat)
    (hy : Coupe.ArcSwap.Hyp (Coupe.ArcSwap.mkCfg g w p₀ maxPw threads) p₀)
    (s : Coupe.ArcSwap.State)
    (h : Coupe.ArcSwap.Reach (Coupe.ArcSwap.mkCfg g w p₀ maxPw threads) p₀ s) :
    s.parts.length = p₀.length ∧ ∀ p ∈ s.parts, p ≤ max 1 (p₀.foldl max 0) := by
  obtain ⟨h1, h2⟩ := Coupe.ArcSwap.ids_valid hy.cfg h
  have h2' : ∀ p ∈ s.parts, p < max 2 (1 + p₀.foldl max 0) := h2
  exact ⟨h1, fun p hp => by have := h2' p hp; omega⟩

/-- FULL totality statement for ArcSwap (proved below, `arcswap_total`): under the contract and
non-negative edge weights, for every schedule some fuel lets the run return `Ok` (no panic, no
hang). -/
def arcswap_total_statement : Prop :=
  ∀ (g : Coupe.ArcSwap.Graph) (w : List Int) (p₀ : List Nat) (maxPw : Int) (threads : Nat)
    (scheds : List (List Nat)),
    Coupe.ArcSwap.Hyp (Coupe.ArcSwap.mkCfg g w p₀ maxPw threads) p₀ →
    (∀ e ∈ Coupe.ArcSwap.edges g, 0 ≤ e.2.2) →
    ∃ fuel passes ids md tr,
      Coupe.ArcSwap.run (Coupe.ArcSwap.mkCfg g w p₀ maxPw threads) p₀ scheds fuel passes
        = (.ok ids md, tr)

/-- The OUTER loop terminates (C05's `passes_terminate`): in every reachable state the number of
passes begun is at most `cut(input) + 1`.  The other two ingredients of `arcswap_total_statement`
are C05's `pass_terminates` / `pass_steps_bounded` (a potential that every step of every task
lowers: the inner loops of one pass perform at most `fuelBound` steps under any schedule) and
`no_panic_reachable` (`Pc.panic` is unreachable); see `arcswap_total` below. -/
theorem arcswap_total_partial (g : Coupe.ArcSwap.Graph) (w : List Int) (p₀ : List Nat)
    (maxPw : Int) (threads : Nat)
    (hy : Coupe.ArcSwap.Hyp (Coupe.ArcSwap.mkCfg g w p₀ maxPw threads) p₀)
    (hw : ∀ e ∈ Coupe.ArcSwap.edges g, 0 ≤ e.2.2) (s : Coupe.ArcSwap.State)
    (h : Coupe.ArcSwap.Reach (Coupe.ArcSwap.mkCfg g w p₀ maxPw threads) p₀ s) :
    (s.md.passCount : Int) ≤ Coupe.ArcSwap.cut g p₀ + 1 :=
  -- `c` is given: left to unification, `c.g` is first matched against `g` the expensive way
  Coupe.ArcSwap.passes_terminate (c := Coupe.ArcSwap.mkCfg g w p₀ maxPw threads) hy hw h

/-- ArcSwap is TOTAL (C05's `arcswap_terminates`: `no_panic_reachable` + `pass_terminates` +
the bound on the passes): the full statement holds, with explicit witnesses
`fuel = fuelBound + 1`, `passes = passesBound` that depend on the input only, not on the
schedules – and the hypothesis on the edge weights is not even needed. -/
theorem arcswap_total : arcswap_total_statement := by
  intro g w p₀ maxPw threads scheds hy _
  exact ⟨_, _, Coupe.ArcSwap.arcswap_terminates hy scheds (Nat.lt_succ_self _) (Nat.le_refl _)⟩

/-- Totality and validity together, uniformly in the schedules, edge weights of any sign: some
fuel and some number of passes (functions of the input) make EVERY list of schedules return
`Ok` with an array of the input's length whose ids are at most `max 1 (largest input id)`. -/
theorem arcswap_total_keeps_valid (g : Coupe.ArcSwap.Graph) (w : List Int) (p₀ : List Nat)
    (maxPw : Int) (threads : Nat)
    (hy : Coupe.ArcSwap.Hyp (Coupe.ArcSwap.mkCfg g w p₀ maxPw threads) p₀) :
    ∃ fuel passes, ∀ scheds : List (List Nat), ∃ ids md tr,
      Coupe.ArcSwap.run (Coupe.ArcSwap.mkCfg g w p₀ maxPw threads) p₀ scheds fuel passes
        = (.ok ids md, tr) ∧
      ids.length = p₀.length ∧ ∀ p ∈ ids, p ≤ max 1 (p₀.foldl max 0) := by
  refine ⟨Coupe.ArcSwap.fuelBound (Coupe.ArcSwap.mkCfg g w p₀ maxPw threads) p₀ + 1,
    Coupe.ArcSwap.passesBound (Coupe.ArcSwap.mkCfg g w p₀ maxPw threads) p₀, fun scheds => ?_⟩
  obtain ⟨ids, md, tr, hr⟩ :=
    Coupe.ArcSwap.arcswap_terminates hy scheds (Nat.lt_succ_self _) (Nat.le_refl _)
  obtain ⟨h1, h2, -⟩ := arcswap_keeps_valid g w p₀ maxPw threads hy scheds _ _ ids md tr hr
  exact ⟨ids, md, tr, hr, h1, h2⟩

/-- Non-vacuity (C05's example: path `0 - 1 - 2`, parts `[0,1,0]`, two workers, a schedule with a
lock conflict): the hypotheses hold and the run does real work (`[0,1,0] → [1,1,1]`). -/
example : Coupe.ArcSwap.Hyp (Coupe.ArcSwap.mkCfg [[(1, 1)], [(0, 1), (2, 1)], [(1, 1)]] [1, 1, 1]
    [0, 1, 0] 4 2) [0, 1, 0] := Coupe.ArcSwap.hyp_of_check (by decide +kernel)
example : (Coupe.ArcSwap.run (Coupe.ArcSwap.mkCfg [[(1, 1)], [(0, 1), (2, 1)], [(1, 1)]] [1, 1, 1]
    [0, 1, 0] 4 2) [0, 1, 0] [List.replicate 18 0 ++ [1, 1, 1, 1, 1, 0]] 1000 10).1 =
    .ok [1, 1, 1] { edgeCutGain := 2, passCount := 3, moveAttempts := 5, moveCount := 2,
                    raceCount := 1, noGainCount := 2, verticesPerThread := 2 } := by
  decide +kernel
example (ids : List Nat) (md : Coupe.ArcSwap.Metadata) (tr : List (List (Nat × Coupe.ArcSwap.Event)))
    (hr : Coupe.ArcSwap.run (Coupe.ArcSwap.mkCfg [[(1, 1)], [(0, 1), (2, 1)], [(1, 1)]] [1, 1, 1]
      [0, 1, 0] 4 2) [0, 1, 0] [List.replicate 18 0 ++ [1, 1, 1, 1, 1, 0]] 1000 10 = (.ok ids md, tr)) :
    ids.length = 3 ∧ ∀ p ∈ ids, p ≤ 1 := by
  obtain ⟨h1, -, h3⟩ := arcswap_keeps_valid _ _ _ _ _
    (Coupe.ArcSwap.hyp_of_check (by decide +kernel)) _ _ _ ids md tr hr
  exact ⟨h1, h3 (by decide)⟩

/-- Non-vacuity of the corollaries: their hypotheses are met by concrete non-trivial inputs (the
owners' own examples – the weighted 4-cycle of C07, the 8-path of C15, the D7 witness of C14). -/
example : ∃ r, Coupe.Fm.run (fun _ _ => 0) ⟨none, none, 1, true⟩ (some 30) Coupe.Fm.g4 [5,7,11,13]
    [0,1,0,1] = .ok r ∧ r.part.length = 4 ∧ ∀ i ∈ r.part, i ≤ 1 :=
  fm_keeps_valid _ _ _ _ _ _ Coupe.Fm.valid_g4 (by decide) (by decide) (by decide)
example : ∃ out, Coupe.Kl.run {} (Coupe.Kl.pathGraph 8) 8 none none 1 [0,1,0,1,0,1,0,1] = .ok out ∧
    out.length = 8 ∧ ∀ x, x ∈ out ↔ x ∈ [0,1,0,1,0,1,0,1] :=
  kl_keeps_valid _ _ _ _ _ _ ⟨by decide +kernel, by decide +kernel⟩
    ⟨0, 1, by decide, by decide, by decide, by decide⟩
example : Coupe.VnFirst.run { unsigned := true } [0,1,2,3,1,2,0] [1,5,1,3,3,1,5]
    = .ok [0,2,2,3,1,2,0] 1 ∧ Coupe.Vn.maxId [0,1,2,3,1,2,0] = 3 := by decide +kernel

end Coupe.C02

#print axioms Coupe.C02.kmeans_ids_subset
#print axioms Coupe.C02.kmeans_length
#print axioms Coupe.C02.kmeans_unsound_iff
#print axioms Coupe.C02.kmeans_total
#print axioms Coupe.C02.kmeans_empty_cluster_counterexample
#print axioms Coupe.C02.kmeans_empty_cluster_always
#print axioms Coupe.C02.kmeans_legal_step_iff
#print axioms Coupe.C02.vn_maxId_eq
#print axioms Coupe.C02.vnbest_keeps_valid
#print axioms Coupe.C02.vnfirst_keeps_valid
#print axioms Coupe.C02.kl_keeps_valid
#print axioms Coupe.C02.kl_stays_01
#print axioms Coupe.C02.fm_keeps_valid
#print axioms Coupe.C02.arcswap_keeps_valid
#print axioms Coupe.C02.arcswap_keeps_valid_always
#print axioms Coupe.C02.arcswap_total_partial
#print axioms Coupe.C02.arcswap_total
#print axioms Coupe.C02.arcswap_total_keeps_valid
