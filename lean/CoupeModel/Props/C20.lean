import CoupeModel.Model.Prologue
import CoupeModel.Proofs.Prologue

/-!
# C20 — contract violations are reported as errors before any output is written

Every theorem is about `run {} a i = eval (guards extracted from the source) i`:
the guard lists come from `Gen/Errors.lean`, regenerated from `/repo` on every
run, so re-ordering the guards of a prologue re-checks the theorems.

All statements quantify over *all* inputs (array contents, weights, lengths,
parameters); the length checks and completeness hold for every guard list of the right
shape (`Proofs/Prologue.lean`), the rest are case analyses of the decision lists.

Which error wins when several violations are present (read off the theorems):
* a mismatch of the weights is reported before a mismatch of the points / of the
  graph (`rcb_…`, `fm_…`: `actual` is the weights' length whenever that differs);
* every length mismatch is reported before `BiPartitioningOnly`
  (`fm_len_beats_bipart`) and before `NegativeValues` (`vnbest_len_beats_negative`);
* HilbertCurve looks at the order first and at nothing else
  (`hilbert2d_invalid_order` has no other hypothesis).
-/

namespace Coupe.Prologue
open Coupe.Gen.Errors

/-- The model's error type has the variants (and fields) of `coupe::Error`, in
declaration order. -/
theorem error_enum_matches_source : Err.variants = errorVariants := by decide

/-! ## A length mismatch is reported as `InputLenMismatch`, nothing written -/

theorem rcb_len_mismatch_reported (i : Input)
    (h : i.weights.length ≠ i.parts.length ∨ i.points ≠ i.parts.length) :
    run {} .rcb i = ⟨.err (.inputLenMismatch i.parts.length
      (if i.weights.length ≠ i.parts.length then i.weights.length else i.points)), .none⟩ :=
  eval_lenWeights_lenPoints _ _ h

example : run {} .rcb { parts := [0, 0], weights := [1, 1], points := 0 }
    = ⟨.err (.inputLenMismatch 2 0), .none⟩ := by decide

/-- Rib validates the lengths before it builds its frame (the oriented bounding box, floating-point
linear algebra outside the model: `obbOk`), so a mismatch is reported whatever the points are. -/
theorem rib_len_mismatch_reported (i : Input)
    (h : i.weights.length ≠ i.parts.length ∨ i.points ≠ i.parts.length) :
    run {} .rib i = ⟨.err (.inputLenMismatch i.parts.length
      (if i.weights.length ≠ i.parts.length then i.weights.length else i.points)), .none⟩ :=
  eval_lenWeights_lenPoints _ _ h

/-- … in particular on a point set on which the frame computation panics (finite coordinates whose
squares overflow, finding K8). -/
example : run {} .rib { parts := [7, 7, 7], weights := [1, 2], points := 3, obbOk := false }
    = ⟨.err (.inputLenMismatch 3 2), .none⟩ := by decide

example : run {} .rib { parts := [5], weights := [1], points := 0 }
    = ⟨.err (.inputLenMismatch 1 0), .none⟩ := by decide

theorem greedy_len_mismatch_reported (i : Input) (h : i.weights.length ≠ i.parts.length) :
    run {} .greedy i = ⟨.err (.inputLenMismatch i.parts.length i.weights.length), .none⟩ :=
  eval_lenWeights_ne _ _ h

example : run {} .greedy { parts := [7, 7], weights := [], partCount := 1 }
    = ⟨.err (.inputLenMismatch 2 0), .none⟩ := by decide

theorem kk_len_mismatch_reported (i : Input) (h : i.weights.length ≠ i.parts.length) :
    run {} .kk i = ⟨.err (.inputLenMismatch i.parts.length i.weights.length), .none⟩ :=
  eval_lenWeights_ne _ _ h

example : run {} .kk { parts := [7], weights := [1, 2, 3], partCount := 0 }
    = ⟨.err (.inputLenMismatch 1 3), .none⟩ := by decide

theorem ckk_len_mismatch_reported (i : Input) (h : i.weights.length ≠ i.parts.length) :
    run {} .ckk i = ⟨.err (.inputLenMismatch i.parts.length i.weights.length), .none⟩ :=
  eval_lenWeights_ne _ _ h

example : run {} .ckk { parts := [], weights := [1], tolOk := false }
    = ⟨.err (.inputLenMismatch 0 1), .none⟩ := by decide

/-- VnBest evaluates `max(part_ids) + 1` before it validates anything; the
addition saturates (commit `b3a1ccd`), so the statement holds for every array
contents, `usize::MAX` included (`vnbest_unchecked_add_panics_on_mismatch` for the
code before). -/
theorem vnbest_len_mismatch_reported (i : Input) (h : i.weights.length ≠ i.parts.length) :
    run {} .vnBest i = ⟨.err (.inputLenMismatch i.parts.length i.weights.length), .none⟩ :=
  (eval_partCountFromMaxSat _ _).trans (eval_lenWeights_ne _ _ h)

example : run {} .vnBest { parts := [0], weights := [-1, 1] }
    = ⟨.err (.inputLenMismatch 1 2), .none⟩ := by decide
example : run {} .vnBest { parts := [usizeMax], weights := [] }
    = ⟨.err (.inputLenMismatch 1 0), .none⟩ := by decide

theorem vnfirst_len_mismatch_reported (i : Input) (h : i.weights.length ≠ i.parts.length) :
    run {} .vnFirst i = ⟨.err (.inputLenMismatch i.parts.length i.weights.length), .none⟩ :=
  (eval_partCountFromMaxSat _ _).trans (eval_lenWeights_ne _ _ h)

example : run {} .vnFirst { parts := [0, 0, 0], weights := [] }
    = ⟨.err (.inputLenMismatch 3 0), .none⟩ := by decide

theorem fm_len_mismatch_reported (i : Input)
    (h : i.weights.length ≠ i.parts.length ∨ i.graph ≠ i.parts.length) :
    run {} .fm i = ⟨.err (.inputLenMismatch i.parts.length
      (if i.weights.length ≠ i.parts.length then i.weights.length else i.graph)), .none⟩ :=
  eval_lenWeights_lenAdjacency _ _ h

example : run {} .fm { parts := [], weights := [], graph := 3 }
    = ⟨.err (.inputLenMismatch 0 3), .none⟩ := by decide

theorem arcswap_len_mismatch_reported (i : Input)
    (h : i.weights.length ≠ i.parts.length ∨ i.graph ≠ i.parts.length) :
    run {} .arcSwap i = ⟨.err (.inputLenMismatch i.parts.length
      (if i.weights.length ≠ i.parts.length then i.weights.length else i.graph)), .none⟩ :=
  eval_lenWeights_lenAdjacency _ _ h

example : run {} .arcSwap { parts := [], weights := [1], graph := 0 }
    = ⟨.err (.inputLenMismatch 0 1), .none⟩ := by decide

/-! ## The other contract violations -/

/-- More than two parts (any id above one, anywhere in the array), lengths
fine: `BiPartitioningOnly`, nothing written. -/
theorem fm_bipart_only (i : Input) (hw : i.weights.length = i.parts.length)
    (hg : i.graph = i.parts.length) (h : ∃ x ∈ i.parts, 1 < x) :
    run {} .fm i = ⟨.err .biPartitioningOnly, .none⟩ := by
  have hm : 1 < maxId i.parts := (maxId_lt_iff _ _).2 h
  obtain ⟨x, hx, _⟩ := h
  have hne : i.parts.length ≠ 0 := Nat.ne_of_gt (List.length_pos_of_mem hx)
  prologue_unfold
  simp only [if_neg (not_not_intro hw), if_neg (not_not_intro hg), if_neg hne, if_pos hm]

example : run {} .fm { parts := [0, 1, 2], weights := [1, 1, 1], graph := 3 }
    = ⟨.err .biPartitioningOnly, .none⟩ := by decide

/-- With a length mismatch *and* more than two parts the length mismatch wins. -/
theorem fm_len_beats_bipart (i : Input)
    (h : i.weights.length ≠ i.parts.length ∨ i.graph ≠ i.parts.length) (_h2 : ∃ x ∈ i.parts, 1 < x) :
    ∃ a, run {} .fm i = ⟨.err (.inputLenMismatch i.parts.length a), .none⟩ :=
  ⟨_, fm_len_mismatch_reported i h⟩

example : run {} .fm { parts := [0, 3], weights := [1], graph := 2 }
    = ⟨.err (.inputLenMismatch 2 1), .none⟩ := by decide

/-- A negative weight at any position `k`, lengths fine: `NegativeValues`,
nothing written. -/
theorem vnbest_negative (i : Input) (hw : i.weights.length = i.parts.length)
    (k : Nat) (hk : k < i.weights.length) (hneg : i.weights[k] < 0) :
    run {} .vnBest i = ⟨.err .negativeValues, .none⟩ := by
  have hany := any_neg_of_getElem i.weights k hk hneg
  prologue_unfold
  simp only [if_neg (not_not_intro hw), if_pos hany]

example : run {} .vnBest { parts := [0, 1, 0], weights := [1, 1, -1] }
    = ⟨.err .negativeValues, .none⟩ := by decide

/-- With a length mismatch *and* a negative weight the length mismatch wins. -/
theorem vnbest_len_beats_negative (i : Input)
    (h : i.weights.length ≠ i.parts.length) (_hneg : ∃ w ∈ i.weights, w < 0) :
    run {} .vnBest i = ⟨.err (.inputLenMismatch i.parts.length i.weights.length), .none⟩ :=
  vnbest_len_mismatch_reported i h

/-- An order above `MAX_ORDER` (the constant extracted from the source):
`InvalidOrder { max, actual }`, nothing written – whatever the other inputs are. -/
theorem hilbert2d_invalid_order (i : Input) (h : hilbertMaxOrder2d < i.order) :
    run {} .hilbert2d i = ⟨.invalidOrder hilbertMaxOrder2d i.order, .none⟩ := by
  prologue_unfold
  simp only [if_pos h]

theorem hilbert3d_invalid_order (i : Input) (h : hilbertMaxOrder3d < i.order) :
    run {} .hilbert3d i = ⟨.invalidOrder hilbertMaxOrder3d i.order, .none⟩ := by
  prologue_unfold
  simp only [if_pos h]

example : run {} .hilbert2d { parts := [0, 0], points := 0, order := 33 }
    = ⟨.invalidOrder 32 33, .none⟩ := by decide
example : run {} .hilbert3d { parts := [0, 0], points := 2, order := 22 }
    = ⟨.invalidOrder 21 22, .none⟩ := by decide
/-- … and the maximum itself is accepted. -/
example : run {} .hilbert2d { parts := [0, 0], points := 2, order := 32 } = ⟨.proceed, .body⟩ := by decide
example : run {} .hilbert3d { parts := [0, 0], points := 2, order := 21 } = ⟨.proceed, .body⟩ := by decide

/-! ## Nothing is written before an error, and nothing panics -/

/-- Whenever a prologue leaves with an error (either enum) or at a panic site,
no write to the caller's array has been executed.  All entry points, all
inputs, no side condition. -/
theorem error_means_untouched (a : Algo) (i : Input)
    (h : (∃ e, (run {} a i).out = .err e) ∨ (∃ m k, (run {} a i).out = .invalidOrder m k) ∨
      (∃ s, (run {} a i).out = .panic s)) :
    (run {} a i).eff = .none := by
  apply eval_failure_untouched
  rcases h with ⟨e, h⟩ | ⟨m, k, h⟩ | ⟨s, h⟩ <;> (simp only [run] at h; rw [h]; rfl)

/-- The same for every guard list over the translator's vocabulary, in whatever
order (in particular for the old orders of D10: there the defect was a
shortcut `Ok`, not a write before an error). -/
theorem failure_means_untouched_any_order (gs : List Guard) (i : Input) (np : Nat)
    (h : (eval gs i np).out.isFailure = true) : (eval gs i np).eff = .none :=
  eval_failure_untouched gs i np h

/-- No panic site of a prologue is reachable (under `PanicFree`, which is
`True` for Rcb, Greedy, KarmarkarKarp, FiducciaMattheyses): `max().unwrap_or(&0)`
on an empty array, the `debug_assert!`s of `fiduccia_mattheyses` / `arc_swap` /
`compute_parts_load`, `work_share(0, _)`, Rib with an empty point set (handed
to rcb), Hilbert with an empty array. -/
theorem no_panic (a : Algo) (i : Input) (h : PanicFree a i) (s : PanicSite) :
    (run {} a i).out ≠ .panic s := by
  -- a leaf of the decision list is a result other than a panic, or a panic site whose condition
  -- contradicts a check passed before it (`PanicFree` for the sites that are reachable)
  cases a <;> simp only [PanicFree] at h <;> prologue_unfold <;>
    (repeat' refine out_ite_ne (fun _ => ?_) (fun _ => ?_)) <;>
    first | (simp only [ne_eq, reduceCtorEq, not_false_eq_true]; done) | omega | simp_all

example : PanicFree .fm { parts := [], weights := [], graph := 0 } := trivial
example : PanicFree .vnBest { parts := [0, 3], weights := [1] } := by
  show maxId [0, 3] < usizeMax ∨ _
  decide

/-- The generated guard lists are complete decision lists: they end in `body`. -/
theorem never_falls_off (a : Algo) (i : Input) : (run {} a i).out ≠ .fellOff :=
  eval_ne_fellOff _ (by cases a <;> decide)

/-! ## Observations outside the property's claim: the inputs excluded by `PanicFree` do panic -/

/-- An id of `usize::MAX` with *valid* lengths (not a violation the property
lists): `part_count` saturates at `usize::MAX`, and `compute_parts_load`'s
`debug_assert!(max < num_parts)` fails. -/
theorem vn_id_max_valid_lengths_panics :
    run {} .vnBest { parts := [usizeMax], weights := [1] } = ⟨.panic .debugAssert, .none⟩ ∧
    run {} .vnFirst { parts := [usizeMax], weights := [1] } = ⟨.panic .debugAssert, .none⟩ := by decide
/-- ArcSwap computes the plain `1 + max(part_ids)` *after* its checks: an id of
`usize::MAX` overflows with valid lengths only; a mismatch is still reported. -/
theorem arcswap_id_overflow_panics :
    run {} .arcSwap { parts := [usizeMax], weights := [1], graph := 1 } = ⟨.panic .addOverflow, .none⟩ ∧
    run {} .arcSwap { parts := [usizeMax], weights := [], graph := 1 }
      = ⟨.err (.inputLenMismatch 1 0), .none⟩ := by decide
/-- CompleteKarmarkarKarp unwraps the conversion of `sum * tolerance` (NaN,
infinite or out-of-range tolerance), after the length check. -/
theorem ckk_tolerance_panics :
    run {} .ckk { parts := [0], weights := [1], tolOk := false } = ⟨.panic .unwrapNone, .none⟩ := by decide
/-- HilbertCurve validates no length at all: a non-empty array with an empty
point set unwraps `None` in `index_fn_2d/3d`. -/
theorem hilbert_empty_points_panics :
    run {} .hilbert2d { parts := [0], points := 0, order := 1 } = ⟨.panic .unwrapNone, .none⟩ ∧
    run {} .hilbert3d { parts := [0], points := 0, order := 1 } = ⟨.panic .unwrapNone, .none⟩ := by decide

/-! ## Shortcuts: which valid inputs return `Ok` from the prologue, and what was written -/

/-- Greedy with `part_count < 2` (0 is treated like 1) and matching lengths
fills the array with zeros. -/
theorem greedy_single_part_fills (i : Input) (hw : i.weights.length = i.parts.length)
    (hk : i.partCount < 2) : run {} .greedy i = ⟨.ok, .fill0⟩ := by
  prologue_unfold
  simp only [if_neg (not_not_intro hw), if_pos hk]

/-- KarmarkarKarp with `part_count < 2` or fewer than two elements fills the
array with zeros. -/
theorem kk_trivial_fills (i : Input) (hw : i.weights.length = i.parts.length)
    (hk : i.partCount < 2 ∨ i.parts.length < 2) : run {} .kk i = ⟨.ok, .fill0⟩ := by
  prologue_unfold
  simp only [if_neg (not_not_intro hw), if_pos hk]

/-- Empty input, all lengths zero: `Ok`, nothing written (Greedy and
KarmarkarKarp: see above, they `fill(0)` an empty array or enter a body that has
nothing to do; HilbertCurve: next theorem). -/
theorem empty_input_ok (a : Algo) (i : Input) (hp : i.parts = []) (hw : i.weights = [])
    (hpt : i.points = 0) (hg : i.graph = 0) (hobb : i.obbOk = true)
    (ha : a ≠ .greedy ∧ a ≠ .kk ∧ a ≠ .hilbert2d ∧ a ≠ .hilbert3d) : run {} a i = ⟨.ok, .none⟩ := by
  obtain ⟨parts, weights, points, graph, partCount, order, tolOk, obbOk⟩ := i
  simp only at hp hw hpt hg hobb
  subst hp hw hpt hg hobb
  cases a <;> simp at ha <;> prologue_unfold <;> simp [maxId, usizeMax]

/-- HilbertCurve with an acceptable order and an empty array returns `Ok`
whatever the points and weights are. -/
theorem hilbert_empty_array_ok (i : Input) (hp : i.parts = []) :
    (i.order ≤ hilbertMaxOrder2d → run {} .hilbert2d i = ⟨.ok, .none⟩) ∧
    (i.order ≤ hilbertMaxOrder3d → run {} .hilbert3d i = ⟨.ok, .none⟩) := by
  constructor <;> intro ho <;> prologue_unfold <;> simp [hp] <;> omega

/-! ## Regression: the guard order of the pinned upstream code (defect D10) -/

/-- VnBest / VnFirst with the plain `1 + max(part_ids)` (before commit
`b3a1ccd`): evaluated before the length check, an id of `usize::MAX` panics
(overflow checks on) instead of `InputLenMismatch`. -/
theorem vnbest_unchecked_add_panics_on_mismatch :
    run { uncheckedVnPartCount := true } .vnBest { parts := [usizeMax], weights := [] }
      = ⟨.panic .addOverflow, .none⟩ := by decide
theorem vnfirst_unchecked_add_panics_on_mismatch :
    run { uncheckedVnPartCount := true } .vnFirst { parts := [0, usizeMax], weights := [1] }
      = ⟨.panic .addOverflow, .none⟩ := by decide

/-- Greedy, old order: single-part shortcut first – mismatched input, array
filled, `Ok`. -/
theorem greedy_old_order_writes_on_mismatch :
    run { oldGreedy := true } .greedy { parts := [7, 7], weights := [], partCount := 1 }
      = ⟨.ok, .fill0⟩ := by decide
/-- KarmarkarKarp, old order: trivial-case shortcut first. -/
theorem kk_old_order_ok_on_mismatch :
    run { oldKk := true } .kk { parts := [7], weights := [1, 2, 3], partCount := 2 } = ⟨.ok, .none⟩ := by
  decide
/-- VnBest, old order: single-part shortcut in `partition()` first – neither the
mismatch nor the negative weight is reported. -/
theorem vnbest_old_order_ok_on_mismatch :
    run { oldVnBest := true } .vnBest { parts := [0, 0], weights := [-1] } = ⟨.ok, .none⟩ ∧
    run { oldVnBest := true } .vnBest { parts := [0, 0], weights := [-1, 1] } = ⟨.ok, .none⟩ := by decide
theorem vnfirst_old_order_ok_on_mismatch :
    run { oldVnFirst := true } .vnFirst { parts := [0, 0], weights := [1] } = ⟨.ok, .none⟩ := by decide
/-- FiducciaMattheyses / ArcSwap, old order: empty-array shortcut first. -/
theorem fm_old_order_ok_on_mismatch :
    run { oldFm := true } .fm { parts := [], weights := [1], graph := 2 } = ⟨.ok, .none⟩ := by decide
theorem arcswap_old_order_ok_on_mismatch :
    run { oldArcSwap := true } .arcSwap { parts := [], weights := [1], graph := 2 } = ⟨.ok, .none⟩ := by
  decide
/-- Rib, old order: an empty point set returned `Ok` before rcb's checks. -/
theorem rib_old_order_ok_on_mismatch :
    run { oldRib := true } .rib { parts := [7, 7], weights := [1], points := 0 } = ⟨.ok, .none⟩ := by decide
/-- Rib, previous order (the oriented bounding box first): on a point set on which the frame
computation panics (finite coordinates whose squares overflow, K8) a length mismatch was never
reported. `points = [(1e200, 0), (-1e200, 1), (0, 3)]`, two weights, three ids: panic at
`geometry.rs:316` instead of `InputLenMismatch { expected: 3, actual: 2 }`. -/
theorem rib_obb_first_panics_on_mismatch :
    run { ribObbFirst := true } .rib { parts := [7, 7, 7], weights := [1, 2], points := 3, obbOk := false }
      = ⟨.panic .floatOutOfModel, .none⟩ := by decide

end Coupe.Prologue

#print axioms Coupe.Prologue.rib_obb_first_panics_on_mismatch
#print axioms Coupe.Prologue.error_enum_matches_source
#print axioms Coupe.Prologue.rcb_len_mismatch_reported
#print axioms Coupe.Prologue.rib_len_mismatch_reported
#print axioms Coupe.Prologue.greedy_len_mismatch_reported
#print axioms Coupe.Prologue.kk_len_mismatch_reported
#print axioms Coupe.Prologue.ckk_len_mismatch_reported
#print axioms Coupe.Prologue.vnbest_len_mismatch_reported
#print axioms Coupe.Prologue.vnfirst_len_mismatch_reported
#print axioms Coupe.Prologue.fm_len_mismatch_reported
#print axioms Coupe.Prologue.arcswap_len_mismatch_reported
#print axioms Coupe.Prologue.fm_bipart_only
#print axioms Coupe.Prologue.fm_len_beats_bipart
#print axioms Coupe.Prologue.vnbest_negative
#print axioms Coupe.Prologue.vnbest_len_beats_negative
#print axioms Coupe.Prologue.hilbert2d_invalid_order
#print axioms Coupe.Prologue.hilbert3d_invalid_order
#print axioms Coupe.Prologue.error_means_untouched
#print axioms Coupe.Prologue.failure_means_untouched_any_order
#print axioms Coupe.Prologue.no_panic
#print axioms Coupe.Prologue.never_falls_off
#print axioms Coupe.Prologue.vn_id_max_valid_lengths_panics
#print axioms Coupe.Prologue.arcswap_id_overflow_panics
#print axioms Coupe.Prologue.ckk_tolerance_panics
#print axioms Coupe.Prologue.hilbert_empty_points_panics
#print axioms Coupe.Prologue.greedy_single_part_fills
#print axioms Coupe.Prologue.kk_trivial_fills
#print axioms Coupe.Prologue.empty_input_ok
#print axioms Coupe.Prologue.hilbert_empty_array_ok
#print axioms Coupe.Prologue.vnbest_unchecked_add_panics_on_mismatch
#print axioms Coupe.Prologue.vnfirst_unchecked_add_panics_on_mismatch
#print axioms Coupe.Prologue.greedy_old_order_writes_on_mismatch
#print axioms Coupe.Prologue.kk_old_order_ok_on_mismatch
#print axioms Coupe.Prologue.vnbest_old_order_ok_on_mismatch
#print axioms Coupe.Prologue.vnfirst_old_order_ok_on_mismatch
#print axioms Coupe.Prologue.fm_old_order_ok_on_mismatch
#print axioms Coupe.Prologue.arcswap_old_order_ok_on_mismatch
#print axioms Coupe.Prologue.rib_old_order_ok_on_mismatch
