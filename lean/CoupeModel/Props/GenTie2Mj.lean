import CoupeModel.Gen.IntFns
import CoupeModel.Model.MultiJagged
import CoupeModel.Props.C11

/-!
# GenTie2Mj — `partition_scheme` of MultiJagged is the arithmetic regenerated from the source

`tools/extract_intfns.py` regenerates on every run, from `src/algorithms/multi_jagged.rs`, into
`Gen/IntFns.lean`:

* `partition_scheme_arith num_parts approx_root` – `rem`, `quotient`, the four arguments of
  `compute_modifiers(…)` and `num_splits` of one level of `partition_scheme` (checked `%`, `/`, `-`;
  `approx_root`, the `f32` root, is a parameter as in the hand model);
* `partition_scheme_children rem quotient approx_root max_iter` – the arguments of the two recursive
  calls and the bounds of the two `for _ in a..b` loops that push them;
* `compute_modifiers_parts` – `num_subparts` and the counts / numerators / denominators of the two
  `map`s of `compute_modifiers`.

The frame (the float root, `if rem == 0 && max_iter == 0 { None }`, the pushes, the struct literal, the
iterator chain) is locked as text by the translator.  `genScheme` below is that frame written around
the generated arithmetic; `partition_scheme_tie` proves that the hand-written `scheme` of
`Model/MultiJagged.lean` (the object of `scheme_total`, `scheme_leaves` of `Props/C11.lean`) satisfies
the same recursion equation with the same panics, and `partition_scheme_gen_*` restate the two C11
theorems for the function defined by the generated arithmetic.
-/

namespace Coupe.GenTie2Mj
open Coupe.Gen.IntFns Coupe.MultiJagged

/-- With a non-zero root no check fails and the values are those the hand model computes
(`rem < approx_root`, so `approx_root - rem` and `approx_root - 1` do not underflow). -/
theorem partition_scheme_arith_tie (n r : Nat) (hr : 0 < r) :
    partition_scheme_arith n r = some (n % r, n / r, r - n % r, n % r, n / r, n / r + 1, r - 1) := by
  have h0 : r ≠ 0 := Nat.ne_of_gt hr
  have h1 : n % r ≤ r := Nat.le_of_lt (Nat.mod_lt _ hr)
  have h2 : 1 ≤ r := hr
  simp only [partition_scheme_arith, cmod, cdiv, csub, if_neg h0, if_pos h1, if_pos h2, bind, pure,
    Option.bind_some]

/-- `approx_root = 0`: `num_parts % approx_root` panics (the hand model's `none`). -/
theorem partition_scheme_arith_panics (n : Nat) : partition_scheme_arith n 0 = none := rfl

/-- The recursive calls: `max_iter - 1` panics at `max_iter = 0`, otherwise the first loop pushes
`rem` times `partition_scheme(quotient + 1, max_iter - 1)` and the second `approx_root - rem` times
`partition_scheme(quotient, max_iter - 1)`. -/
theorem partition_scheme_children_tie (rem q r m : Nat) :
    partition_scheme_children rem q r 0 = none ∧
    partition_scheme_children rem q r (m + 1) = some (q + 1, m, q, m, 0, rem, rem, r) := ⟨rfl, rfl⟩

/-- `compute_modifiers`: numerators and common denominator of the hand model. -/
theorem compute_modifiers_tie (numRegular numFat regularSub fatSub : Nat) :
    let g := compute_modifiers_parts numRegular numFat regularSub fatSub
    computeModifiers numRegular numFat regularSub fatSub
      = (List.replicate g.1 g.2.1 ++ List.replicate g.2.2.2.1 g.2.2.2.2.1, g.2.2.1) ∧
    g.2.2.2.2.2 = g.2.2.1 := ⟨rfl, rfl⟩

example : partition_scheme_arith 7 3 = some (1, 2, 2, 1, 2, 3, 2) := rfl
example : compute_modifiers_parts 2 1 2 3 = (1, 3, 7, 2, 2, 7) := by decide

/-- The body of `partition_scheme(num_parts, max_iter)` with the generated arithmetic in place of the
integer expressions; `self` stands for the recursive calls.  `none` = panic. -/
def genSchemeStep (root : Nat → Nat → Nat) (self : Nat → Nat → Option Scheme) (numParts maxIter : Nat) :
    Option Scheme :=
  (partition_scheme_arith numParts (root numParts maxIter)).bind fun a =>
    -- a = (rem, quotient, num_regular, num_fat, regular_sub, fat_sub, num_splits)
    let g := compute_modifiers_parts a.2.2.1 a.2.2.2.1 a.2.2.2.2.1 a.2.2.2.2.2.1
    let mods := List.replicate g.1 g.2.1 ++ List.replicate g.2.2.2.1 g.2.2.2.2.1
    if a.1 = 0 ∧ maxIter = 0 then some (.mk a.2.2.2.2.2.2 mods g.2.2.1 none)
    else
      (partition_scheme_children a.1 a.2.1 (root numParts maxIter) maxIter).bind fun c =>
        -- c = (fat call: n, m; regular call: n, m; first loop a..b; second loop a..b)
        ((if c.2.2.2.2.2.1 - c.2.2.2.2.1 = 0 then some []
          else (self c.1 c.2.1).map (List.replicate (c.2.2.2.2.2.1 - c.2.2.2.2.1)))).bind fun fat =>
          (self c.2.2.1 c.2.2.2.1).bind fun reg =>
            some (.mk a.2.2.2.2.2.2 mods g.2.2.1
              (some (fat ++ List.replicate (c.2.2.2.2.2.2.2 - c.2.2.2.2.2.2.1) reg)))

/-- `partition_scheme` as defined by the generated arithmetic: recursion on `max_iter`
(`self` is only called with `max_iter - 1`; at `max_iter = 0` a call is a panic already). -/
def genScheme (root : Nat → Nat → Nat) : (maxIter : Nat) → (numParts : Nat) → Option Scheme
  | 0, n => genSchemeStep root (fun _ _ => none) n 0
  | m + 1, n => genSchemeStep root (fun n' _ => genScheme root m n') n (m + 1)

/-- The hand-written `scheme` satisfies the recursion equation of the regenerated code: same
result, `none` (panic) in the same cases, at every level, for every root function. -/
theorem partition_scheme_step_tie (root : Nat → Nat → Nat) (n m : Nat) :
    scheme root n m = genSchemeStep root (scheme root) n m := by
  unfold genSchemeStep
  by_cases hr : root n m = 0
  · rw [hr, partition_scheme_arith_panics]
    cases m <;> (rw [scheme, hr]; rfl)
  · rw [partition_scheme_arith_tie n _ (Nat.pos_of_ne_zero hr)]
    cases m with
    | zero =>
      simp only [scheme, if_neg hr, Option.bind_some, (partition_scheme_children_tie _ _ _ 0).1,
        Option.bind_none, and_true]
      rfl
    | succ m =>
      simp only [scheme, if_neg hr, Option.bind_some, (partition_scheme_children_tie _ _ _ m).2,
        Nat.succ_ne_zero, and_false, if_false, Nat.sub_zero]
      -- what is left differs in `match` against `bind` only
      rcases (if n % root n (m + 1) = 0 then some []
        else (scheme root (n / root n (m + 1) + 1) m).map (List.replicate (n % root n (m + 1)))) with _ | fat
      · rfl
      · cases scheme root (n / root n (m + 1)) m <;> rfl

/-- Hence the function defined by the regenerated arithmetic IS the hand-written model. -/
theorem partition_scheme_tie (root : Nat → Nat → Nat) (m n : Nat) : genScheme root m n = scheme root n m := by
  -- a step calls `self` with `max_iter - 1` only, and not at all when `max_iter = 0`
  induction m generalizing n with
  | zero =>
    rw [partition_scheme_step_tie]
    simp only [genScheme, genSchemeStep, (partition_scheme_children_tie _ _ _ 0).1, Option.bind_none]
  | succ m ih =>
    rw [partition_scheme_step_tie]
    simp only [genScheme, genSchemeStep, (partition_scheme_children_tie _ _ _ m).2, Option.bind_some, ih]

/-- C11's `scheme_total`, stated of the regenerated code. -/
theorem partition_scheme_gen_total {root : Nat → Nat → Nat} (hr : RootOk root) (n m : Nat)
    (hn : 1 ≤ n) (hm : 1 ≤ m) : ∃ s, genScheme root m n = some s := by
  rw [partition_scheme_tie]; exact scheme_total hr n m hn hm

/-- C11's `scheme_leaves`, stated of the regenerated code. -/
theorem partition_scheme_gen_leaves {root : Nat → Nat → Nat} (hr : RootOk root) (n m : Nat)
    (hn : 1 ≤ n) (hm : 1 ≤ m) (s : Scheme) (h : genScheme root m n = some s) :
    s.leaves = n ∧ s.depth ≤ m ∧ s.WF := by
  rw [partition_scheme_tie] at h; exact scheme_leaves hr n m hn hm s h

example : (genScheme iroot 2 5).map (fun s => (s.leaves, s.depth)) = some (5, 2) := by decide +kernel
example : (genScheme iroot 0 5).isNone = true := by decide +kernel

end Coupe.GenTie2Mj

#print axioms Coupe.GenTie2Mj.partition_scheme_arith_tie
#print axioms Coupe.GenTie2Mj.partition_scheme_arith_panics
#print axioms Coupe.GenTie2Mj.partition_scheme_children_tie
#print axioms Coupe.GenTie2Mj.compute_modifiers_tie
#print axioms Coupe.GenTie2Mj.partition_scheme_step_tie
#print axioms Coupe.GenTie2Mj.partition_scheme_tie
#print axioms Coupe.GenTie2Mj.partition_scheme_gen_total
#print axioms Coupe.GenTie2Mj.partition_scheme_gen_leaves
