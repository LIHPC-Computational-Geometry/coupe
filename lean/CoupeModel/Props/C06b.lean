import CoupeModel.Proofs.ParAlgos
import CoupeModel.Proofs.ParAlgosRounded
import CoupeModel.Proofs.ParAlgosMj
import CoupeModel.Proofs.ParAlgosSfc

/-!
# C06, second layer — schedule independence of whole algorithms

`Props/C06.lean` proves every parallel skeleton schedule free.  Here the skeletons sit inside the
algorithm models (`Model/Rcb.lean`, `Model/MultiJagged.lean`, `Model/Sfc.lean`) and the theorems
are about the ids the algorithms return.

A *schedule* (`RcbSched`, `MjSched`, `HilbertSched`, a store order for ZCurve) collects every
decision rayon takes during one call: the binary split tree of each indexed `fold/reduce` (one per
bisection node and per iteration of the cut search for Rcb, one per pass of `weighted_quantiles`
for Hilbert), the block lengths of MultiJagged's scans, the arrival order of the `fetch_add`s, the
order in which stores to the id array take effect.  All theorems quantify over ALL schedules;
arithmetic is exact (`Int`/`Nat`) except in the `…_rounded` theorems for Rcb, which hold over any
coordinate type whose comparisons form a strict weak order, whatever `-`, `+`, `/ 2.0` round to.
What remains outside the model is listed in the doc comment of `C06_algos`.
-/

namespace Coupe.ParAlgos

open Coupe.Par

/-- Exact arithmetic, the one place it is used for Rcb: over `Int` the distance
`point - split_target` determines the point's coordinate.  (For `f32` this is false.) -/
theorem dist_exact_int : DistExact := by
  intro a b t h
  simp only [Rcb.Coord.sub] at h
  omega

/-- Along EVERY split tree the 4-tuple of `par_rcb_split` summarises the items correctly
(`ScanSpec`: count and weight left of the target, no candidate iff all items are left,
otherwise an index of an item at the least distance and that distance) – and with a single
leaf it is literally the fold of `Model/Rcb.lean`. -/
theorem rcb_scan_tree_free (tr : SplitTree) (items : List (Rcb.Item Int)) (coord : Nat) (t : Int) :
    ScanSpec items coord t (scanT tr items coord t) ∧
    scanT .leaf items coord t = Rcb.scan items coord t :=
  ⟨scanT_spec tr items coord t, scanT_eq_scan .leaf items coord t⟩

/-- **… and it is literally `Rcb.scan` along EVERY tree, pivot index included** (reduce
closure of /repo f4e2819: ties keep the left operand). -/
theorem rcb_scan_index_tree_free (tr : SplitTree) (items : List (Rcb.Item Int)) (coord : Nat)
    (t : Int) : scanT tr items coord t = Rcb.scan items coord t :=
  scanT_eq_scan tr items coord t

/-- The tie: two trees name the same pivot (index 0, the first of the two items at 7). -/
example :
    let items : List (Rcb.Item Int) := [⟨0, 1, [7, 0]⟩, ⟨1, 1, [2, 0]⟩, ⟨2, 1, [7, 5]⟩, ⟨3, 1, [9, 0]⟩]
    scanT .leaf items 0 5 = ⟨1, 1, some (0, 2)⟩ ∧
    scanT (.node 2 .leaf .leaf) items 0 5 = ⟨1, 1, some (0, 2)⟩ := by decide +kernel

/-- **The cut search is a function of the item multiset.**  For two arrangements of the
same items and two families of split trees, `par_rcb_split` takes the same exit after the
same number of iterations (or exhausts the same fuel), returns the same `weight_left` and
split position, and the same items on the left and on the right (`SplitRel`; the order
inside a half may differ); it never leaves its arrays.  The hypothesis `DistExact` is where
exact arithmetic enters: the pivots of the two runs are at the same distance, hence – only
then – have the same coordinate, and `reorder_split` compares with that coordinate only.
(`DistExact` is needed for two ARRANGEMENTS, `dist_exact_needed`.  For ONE arrangement and
two families of split trees – what two pool sizes are – it is not: `rcb_split_schedule_free_rounded`.) -/
theorem rcb_split_arrangement_free (hexact : DistExact) (trees trees' : Nat → SplitTree)
    (wt : Int → Int → Bool) (coord : Nat) (sum : Int) (items items' : List (Rcb.Item Int))
    (hp : items.Perm items') (fuel it : Nat) (mn mx : Int) (prev : Option Nat) (mv : Bool) :
    SplitRel items (splitT trees wt coord sum items fuel it mn mx prev mv)
      (splitT trees' wt coord sum items' fuel it mn mx prev mv) :=
  splitT_perm hexact trees trees' wt coord sum hp fuel it mn mx prev mv

/-- **The leaf of every item is a function of the item multiset.**
For two arrangements of the same items (same box, same weight sum), two families of split
trees and two store orders: the recursion trees carry the same set of stores
`(cell, part id)` (`TreeRel`: both runs succeed with `assign` lists that are permutations of
each other, or both run out of fuel), and the id arrays written are equal. -/
theorem rcb_ids_arrangement_free (hexact : DistExact) (wt : Int → Int → Bool) (cfg : Rcb.Cfg)
    (trees trees' : Nat → Nat → SplitTree) (st st' : List (Nat × Nat) → List (Nat × Nat))
    (hst : ∀ ws : List (Nat × Nat), ws.Perm (st ws)) (hst' : ∀ ws : List (Nat × Nat), ws.Perm (st' ws))
    (k : Nat) (items items' : List (Rcb.Item Int)) (iterId coord : Nat) (sum : Int)
    (lo hi : List Int) (n : Nat) (hp : items.Perm items') (hnd : (items.map (·.id)).Nodup) :
    TreeRel (items.map (·.id)) (recurseT wt cfg trees k items iterId coord sum lo hi)
      (recurseT wt cfg trees' k items' iterId coord sum lo hi) ∧
    idsRes st n (recurseT wt cfg trees k items iterId coord sum lo hi) =
      idsRes st' n (recurseT wt cfg trees' k items' iterId coord sum lo hi) := by
  have h := recurseT_perm hexact wt cfg trees trees' k items items' iterId coord sum lo hi hp
  exact ⟨h, idsRes_of_rel st st' hst hst' n _ hnd _ _ h⟩

/-- **Rcb is schedule free** (bounding box given): under EVERY schedule – split trees of the
weight sum and of every fold of every cut search, order of the leaf stores – `rcb` returns
what the sequential model `Rcb.runBB` returns: the same ids, or the same failure (length
mismatch / fuel; never out of bounds). -/
theorem rcb_bb_schedule_free (s : RcbSched) (hs : s.Valid) (wt : Int → Int → Bool) (cfg : Rcb.Cfg)
    (iter : Nat) (pts : List (List Int)) (ws : List Int) (plen : Nat) (lo hi : List Int) :
    runBBT s wt cfg iter pts ws plen lo hi = Rcb.runBB wt cfg iter pts ws plen lo hi := by
  unfold runBBT
  rw [parSum_schedule_free, recurseT_eq_recurse, runBB_eq_idsRes Rcb.intOrderLaws hs]
  cases Rcb.recurse wt cfg iter (Rcb.mkItems pts ws) 0 0 ws.sum lo hi <;> rfl

/-- **Rcb is schedule free**, bounding box included (`fmax`/`fmin`: the `f64::MAX`/`f64::MIN`
the fold of `BoundingBox::from_points` starts from; they bound the data). -/
theorem rcb_schedule_free (s : RcbSched) (hs : s.Valid) (fmax fmin : Int) (wt : Int → Int → Bool)
    (cfg : Rcb.Cfg) (iter : Nat) (pts : List (List Int)) (ws : List Int) (plen : Nat)
    (hb : ∀ p ∈ pts, ∀ c, c < cfg.dim → fmin ≤ p.getD c 0 ∧ p.getD c 0 ≤ fmax) :
    runT s fmax fmin wt cfg iter pts ws plen = Rcb.run wt cfg iter pts ws plen := by
  unfold runT Rcb.run
  by_cases hne : pts = []
  · subst hne
    simp only
    rw [runBBT_empty s wt cfg iter ws plen _ _ (Rcb.bbox cfg.dim []).1 (Rcb.bbox cfg.dim []).2]
    exact rcb_bb_schedule_free s hs wt cfg iter [] ws plen _ _
  · simp only [bboxT_eq s.bbox fmax fmin cfg.dim pts hne hb]
    exact rcb_bb_schedule_free s hs wt cfg iter pts ws plen _ _

/-- Any two schedules agree (what the harness observes across pool sizes and runs). -/
theorem rcb_two_schedules (s s' : RcbSched) (hs : s.Valid) (hs' : s'.Valid) (fmax fmin : Int)
    (wt : Int → Int → Bool) (cfg : Rcb.Cfg) (iter : Nat) (pts : List (List Int)) (ws : List Int)
    (plen : Nat) (hb : ∀ p ∈ pts, ∀ c, c < cfg.dim → fmin ≤ p.getD c 0 ∧ p.getD c 0 ≤ fmax) :
    runT s fmax fmin wt cfg iter pts ws plen = runT s' fmax fmin wt cfg iter pts ws plen := by
  rw [rcb_schedule_free s hs fmax fmin wt cfg iter pts ws plen hb,
    rcb_schedule_free s' hs' fmax fmin wt cfg iter pts ws plen hb]

/-- **Rib**: the same in the frame `rotate` maps the points to, for every `rotate` with
integer values (the frame itself – the inertia matrix and its eigenvector, `f64` – is outside:
K6 was exactly a schedule dependent frame). -/
theorem rib_schedule_free {β : Type} (s : RcbSched) (hs : s.Valid) (fmax fmin : Int)
    (rotate : β → List Int) (wt : Int → Int → Bool) (cfg : Rcb.Cfg) (iter : Nat) (pts : List β)
    (ws : List Int) (plen : Nat)
    (hb : ∀ p ∈ pts, ∀ c, c < cfg.dim → fmin ≤ (rotate p).getD c 0 ∧ (rotate p).getD c 0 ≤ fmax) :
    runRibT s fmax fmin rotate wt cfg iter pts ws plen = Rcb.runRib rotate wt cfg iter pts ws plen := by
  unfold runRibT Rcb.runRib
  apply rcb_schedule_free s hs
  intro p hp c hc
  obtain ⟨q, hq, rfl⟩ := List.mem_map.1 hp
  exact hb q hq c hc

/-- Non-vacuity: `test_rcb_basic` (×10, two levels) under a schedule that splits every fold,
reverses the stores and cuts the sums – and, with ties on both axes (duplicated points), a
schedule whose pivots differ from the sequential ones. -/
def demoSched : RcbSched :=
  ⟨.node 3 .leaf .leaf, fun _ => .node 2 .leaf (.node 1 .leaf .leaf),
   fun id it => if (id + it) % 2 = 0 then .node 3 .leaf (.node 2 .leaf .leaf) else .node 5 (.node 1 .leaf .leaf) .leaf,
   List.reverse⟩

example : demoSched.Valid := fun ws => (List.reverse_perm ws).symm

example : runT demoSched 1000 (-1000) (fun _ _ => false) ⟨2, 100⟩ 2
    [[-13, 60], [20, -40], [10, 10], [-30, -25], [-13, -3], [20, 10], [-30, 10], [13, -20]]
    [1, 1, 1, 1, 1, 1, 1, 1] 8 = .ok [1, 2, 3, 0, 1, 3, 1, 2] := by decide +kernel

example : runT demoSched 1000 (-1000) (fun _ _ => false) ⟨2, 100⟩ 2
    [[5, 5], [1, 9], [5, 5], [9, 1], [5, 5], [1, 1], [9, 9], [5, 5]]
    [1, 2, 1, 2, 1, 2, 1, 2] 8 =
  Rcb.run (α := Int) (fun _ _ => false) ⟨2, 100⟩ 2
    [[5, 5], [1, 9], [5, 5], [9, 1], [5, 5], [1, 1], [9, 9], [5, 5]]
    [1, 2, 1, 2, 1, 2, 1, 2] 8 := by decide +kernel

/-- A coordinate type whose subtraction ROUNDS (down to a multiple of 4) – a stand-in for
`f32`, whose `point - split_target` rounds to 24 bits. -/
@[reducible] def roundingCoord : Rcb.Coord Int :=
  { lt := fun a b => decide (a < b), le := fun a b => decide (a ≤ b), add := fun a b => a + b,
    sub := fun a b => (a - b) / 4 * 4, half := fun a => a / 2, zero := 0, ltInf := fun _ => true }

/-- **`DistExact` is needed for ARRANGEMENT freedom.**  With rounding distances it fails, and
the ids are NOT a function of the item multiset: items at 9, 10, 11 are all at rounded
distance 4 from the target 5, the first one met becomes the pivot, and item 1 (coordinate 9)
lands in part 1 under one arrangement and in part 0 under the other.  (Before /repo f4e2819
different split trees acted on the cut search like different arrangements: defect N11,
`n11_old_reduce_partition_depends_on_tree`.  The ORDER of the input still matters, which is not
a C06 matter: the same input is given to every pool.) -/
theorem dist_exact_needed :
    let A : List (Rcb.Item Int) := [⟨0, 1, [0]⟩, ⟨1, 1, [9]⟩, ⟨2, 1, [10]⟩, ⟨3, 1, [11]⟩]
    let B : List (Rcb.Item Int) := [⟨0, 1, [0]⟩, ⟨2, 1, [10]⟩, ⟨1, 1, [9]⟩, ⟨3, 1, [11]⟩]
    (¬ ∀ a b t : Int, roundingCoord.sub a t = roundingCoord.sub b t → a = b) ∧ A.Perm B ∧
    idsRes id 4 (@Rcb.recurse Int roundingCoord (fun _ _ => true) ⟨1, 100⟩ 1 A 0 0 4 [0] [11])
      = .ok [0, 1, 1, 1] ∧
    idsRes id 4 (@Rcb.recurse Int roundingCoord (fun _ _ => true) ⟨1, 100⟩ 1 B 0 0 4 [0] [11])
      = .ok [0, 0, 1, 1] := by
  refine ⟨fun h => absurd (h 9 10 5 (by decide)) (by decide), by decide, by decide +kernel,
    by decide +kernel⟩

/-- The comparisons of the exact instance are a strict weak order … -/
theorem distLaws_int : DistLaws Int := by
  refine ⟨fun a b c h1 h2 => ?_, fun a b c => Rcb.intOrderLaws.neg_trans a b c trivial trivial trivial,
    fun _ _ _ => rfl, fun _ _ _ h => by cases h⟩
  simp only [Rcb.Coord.lt, decide_eq_true_eq] at *
  omega

/-- … and so are those of the ROUNDING instance (only its subtraction differs): the
hypotheses of the `…_rounded` theorems are met by an arithmetic for which `DistExact` fails. -/
theorem distLaws_rounding : @DistLaws Int roundingCoord ∧
    @Rcb.OrderLawsOn Int roundingCoord (fun _ => True) :=
  -- its comparisons are those of the exact instance
  ⟨@DistLaws.mk Int roundingCoord distLaws_int.trans distLaws_int.neg_trans distLaws_int.lt_ltInf
      distLaws_int.ltInf_lt,
    @Rcb.OrderLawsOn.mk Int roundingCoord _ Rcb.intOrderLaws.le_iff Rcb.intOrderLaws.irrefl
      Rcb.intOrderLaws.neg_trans⟩

/-- **The 4-tuple of `par_rcb_split` along every split tree, over ANY coordinate type**: the
model's sequential `Rcb.scan` – count, weight, nearest distance and pivot INDEX.  `DistLaws`
constrains the comparisons only (`<` a strict weak order compatible with `< INFINITY`: `f32`
without NaN); `point - split_target` may round, two different coordinates may be equally
near. -/
theorem rcb_scan_rounded_tree_free {α : Type} [Rcb.Coord α] (laws : DistLaws α) (tr : SplitTree)
    (items : List (Rcb.Item α)) (coord : Nat) (t : α) :
    scanG mergeG tr items coord t = Rcb.scan items coord t := by
  unfold scanG
  rw [parFoldR_eq_foldl_of_comm (mergeG_stepG laws coord t) (fun _ => mergeG_init_right _) rfl]
  exact foldl_hom toScanG AccGWF (accGWF_step coord t) (toScanG_step coord t) _ _
    (by simp [AccGWF, initG])

/-- **The cut search under every family of split trees is the sequential `Rcb.split`** –
literally: same pivot, same reordering, same halves in the same order – over any coordinate
type.  No `DistExact`. -/
theorem rcb_split_schedule_free_rounded {α : Type} [Rcb.Coord α] (laws : DistLaws α)
    (trees : Nat → SplitTree) (wt : Int → Int → Bool) (coord : Nat) (sum : Int)
    (items : List (Rcb.Item α)) (fuel it : Nat) (mn mx : α) (prev : Option Nat) (mv : Bool) :
    splitG mergeG trees wt coord sum items fuel it mn mx prev mv =
      Rcb.split wt coord sum items fuel it mn mx prev mv := by
  induction fuel generalizing it mn mx prev mv with
  | zero => rfl
  | succ fuel ih =>
    simp only [splitG, Rcb.split, rcb_scan_rounded_tree_free laws, ih]
    -- What is left differs in the names of the `match` auxiliaries only, which the unifier does not
    -- unfold under smart unfolding.
    set_option smartUnfolding false in rfl

/-- **The recursion tree under every family of split trees is the sequential one**
(`Rcb.recurse`), over any coordinate type.  No `DistExact`. -/
theorem rcb_ids_schedule_free_rounded {α : Type} [Rcb.Coord α] (laws : DistLaws α)
    (wt : Int → Int → Bool) (cfg : Rcb.Cfg) (trees : Nat → Nat → SplitTree) (k : Nat)
    (items : List (Rcb.Item α)) (iterId coord : Nat) (sum : Int) (lo hi : List α) :
    recurseG mergeG wt cfg trees k items iterId coord sum lo hi =
      Rcb.recurse wt cfg k items iterId coord sum lo hi := by
  induction k generalizing items iterId coord sum lo hi with
  | zero => cases items <;> simp [recurseG, Rcb.recurse]
  | succ k ih =>
    cases items with
    | nil => simp [recurseG, Rcb.recurse]
    | cons x xs =>
      simp only [recurseG, Rcb.recurse, rcb_split_schedule_free_rounded laws, ih]
      set_option smartUnfolding false in rfl

/-- **Rcb is schedule free without exact coordinate arithmetic** (bounding box given; the
bounding box itself is a min/max fold, comparisons only).  Under EVERY schedule – split tree
of the weight sum, of every fold of every cut search, order of the leaf stores – `rcb` over
the coordinate type `α` returns what the sequential model `Rcb.runBB` returns.  Hypotheses:
the comparisons of `α` are a strict weak order (`laws`, `ol`: no NaN); NOTHING about `-`, `+`,
`/ 2.0`.  What stays exact: the WEIGHTS (`Int`; the parallel weight sums `weights.sum()` and
`weight_left` are associative – for `f64` weights that is the harness' `ExactSums` regime). -/
theorem rcb_bb_schedule_free_rounded {α : Type} [Rcb.Coord α] (laws : DistLaws α)
    (ol : Rcb.OrderLawsOn (fun _ : α => True)) (s : RcbSched) (hs : s.Valid)
    (wt : Int → Int → Bool) (cfg : Rcb.Cfg) (iter : Nat) (pts : List (List α)) (ws : List Int)
    (plen : Nat) (lo hi : List α) :
    runBBG mergeG s wt cfg iter pts ws plen lo hi = Rcb.runBB wt cfg iter pts ws plen lo hi := by
  unfold runBBG
  rw [parSum_schedule_free, rcb_ids_schedule_free_rounded laws, runBB_eq_idsRes ol hs]
  cases Rcb.recurse wt cfg iter (Rcb.mkItems pts ws) 0 0 ws.sum lo hi <;> rfl

/-- Any two schedules agree – what the harness observes across pool sizes – for rounded
coordinate arithmetic. -/
theorem rcb_schedule_free_rounded {α : Type} [Rcb.Coord α] (laws : DistLaws α)
    (ol : Rcb.OrderLawsOn (fun _ : α => True)) (s s' : RcbSched) (hs : s.Valid) (hs' : s'.Valid)
    (wt : Int → Int → Bool) (cfg : Rcb.Cfg) (iter : Nat) (pts : List (List α)) (ws : List Int)
    (plen : Nat) (lo hi : List α) :
    runBBG mergeG s wt cfg iter pts ws plen lo hi = runBBG mergeG s' wt cfg iter pts ws plen lo hi := by
  rw [rcb_bb_schedule_free_rounded laws ol s hs, rcb_bb_schedule_free_rounded laws ol s' hs']

/-- On the exact instance the generic model IS the model of the theorems above. -/
theorem rcb_rounded_exact_agree (s : RcbSched) (hs : s.Valid) (wt : Int → Int → Bool)
    (cfg : Rcb.Cfg) (iter : Nat) (pts : List (List Int)) (ws : List Int) (plen : Nat)
    (lo hi : List Int) :
    runBBG mergeG s wt cfg iter pts ws plen lo hi = runBBT s wt cfg iter pts ws plen lo hi := by
  rw [rcb_bb_schedule_free_rounded distLaws_int Coupe.Rcb.intOrderLaws s hs, rcb_bb_schedule_free s hs]

/-- **Defect N11 (fixed by /repo f4e2819), whole algorithm, kernel checked.**  One
arrangement of four points (0, 9, 10, 11; rounding subtraction: 9, 10, 11 are all at
distance 4 from the target 5), one bisection, two split trees for the fold of the cut search
(one block / two blocks of two – what one thread and several threads do beyond
`with_min_len(4096)`):
* with the reduce closure the code HAD (`mergeGOld`, the right operand wins a tie) the pivots
  are 9 and 10 and the point at 9 is in part 1 under one tree and in part 0 under the other;
* with the repaired closure (`mergeG`) both trees return `[0, 1, 1, 1]`
  (and every tree does: `rcb_bb_schedule_free_rounded` with `distLaws_rounding`).
The real-code instance: 16384 points, `corpus/C06/n11_rcb_tie_across_blocks.case`. -/
theorem n11_old_reduce_partition_depends_on_tree :
    let s1 : RcbSched := ⟨.leaf, fun _ => .leaf, fun _ _ => .leaf, id⟩
    let s2 : RcbSched := ⟨.leaf, fun _ => .leaf, fun _ _ => .node 2 .leaf .leaf, id⟩
    let run := fun (mg : AccG Int → AccG Int → AccG Int) (s : RcbSched) =>
      @runBBG Int roundingCoord mg s (fun _ _ => true) ⟨1, 100⟩ 1 [[0], [9], [10], [11]]
        [1, 1, 1, 1] 4 [0] [11]
    run (@mergeGOld Int roundingCoord) s1 = .ok [0, 1, 1, 1] ∧
    run (@mergeGOld Int roundingCoord) s2 = .ok [0, 0, 1, 1] ∧
    run (@mergeG Int roundingCoord) s1 = .ok [0, 1, 1, 1] ∧
    run (@mergeG Int roundingCoord) s2 = .ok [0, 1, 1, 1] := by
  refine ⟨by decide +kernel, by decide +kernel, by decide +kernel, by decide +kernel⟩

/-- The hierarchy of slabs does not depend on how rayon cuts the block scans – at any node,
at any depth, for every `root`, whether or not the run aborts (`split_chunk_free` at every
node, induction over the scheme). -/
theorem mj_hierarchy_chunk_free {sort : (Nat → Int) → List Nat → List Nat}
    (hsort : MultiJagged.SortOk sort) {c1 c2 : Nat → List Nat}
    (h1 : MultiJagged.ChunkOk c1) (h2 : MultiJagged.ChunkOk c2) (root : Nat → Nat → Nat)
    (dim : Nat) (key : Nat → Nat → Int) (ws : List Nat) (n numParts maxIter : Nat)
    (hws : n ≤ ws.length) :
    MultiJagged.run {} root sort c1 dim key ws n numParts maxIter =
      MultiJagged.run {} root sort c2 dim key ws n numParts maxIter := by
  unfold MultiJagged.run
  cases MultiJagged.scheme root numParts maxIter with
  | none => rfl
  | some s =>
    simp only
    exact recurse_chunk_free hsort h1 h2 dim key ws s 0 _
      (fun i hi => Nat.lt_of_lt_of_le (List.mem_range.1 hi) hws)

/-- The leaf writes of `Model/MultiJagged.lean` are those of `Par.mjAssign` in program order. -/
theorem mj_seq_writes (p0 : List Nat) (leaves : List (List Nat)) (arrival : List Nat) :
    Par.mjAssign p0 leaves arrival id = MultiJagged.assign (fetchAddIds arrival) leaves p0 := by
  simp only [Par.mjAssign, MultiJagged.assign, disjointWrites, labelWrites, enumerate, id,
    List.foldl_flatMap, List.foldl_map, write]

/-- **MultiJagged is schedule free up to a renaming of the parts.**  For any two schedules
(chunking of every block scan, arrival order of the leaves' `fetch_add`, order of the stores):
both runs succeed, on the same hierarchy; the id arrays have length `n`, ids below
`part_count`, and differ by a renaming `ρ` injective on `[0, part_count)`; renamed by first
occurrence (`canon`, the harness' comparison) they are EQUAL. -/
theorem mj_schedule_free {root : Nat → Nat → Nat} {sort : (Nat → Int) → List Nat → List Nat}
    (hr : MultiJagged.RootOk root) (hsort : MultiJagged.SortOk sort) (s s' : MjSched)
    (dim : Nat) (key : Nat → Nat → Int) (ws : List Nat) (n numParts maxIter : Nat)
    (hn : 1 ≤ numParts) (hm : 1 ≤ maxIter) (hws : n ≤ ws.length)
    (hs : s.Valid numParts) (hs' : s'.Valid numParts) (p0 : List Nat) (hp0 : p0.length = n) :
    ∃ ids ids' : List Nat,
      mjIdsT s root sort dim key ws n numParts maxIter p0 = some ids ∧
      mjIdsT s' root sort dim key ws n numParts maxIter p0 = some ids' ∧
      ids.length = n ∧ (∀ v ∈ ids, v < numParts) ∧
      (∃ ρ : Nat → Nat, (∀ a b, a < numParts → b < numParts → ρ a = ρ b → a = b) ∧
        ids' = ids.map ρ) ∧
      canon ids' = canon ids := by
  subst hp0
  obtain ⟨hc, ha, hst⟩ := hs
  obtain ⟨hc', ha', hst'⟩ := hs'
  obtain ⟨h, hrun, hlen, hperm, hnd, _⟩ :=
    MultiJagged.mj_ids hr hsort hc dim key ws _ numParts maxIter hn hm hws
  have hrun' : MultiJagged.run {} root sort s'.chunk dim key ws p0.length numParts maxIter =
      some h := by
    rw [← mj_hierarchy_chunk_free hsort hc hc' root dim key ws _ numParts maxIter hws]
    exact hrun
  rw [← hlen] at ha ha'
  obtain ⟨ρ, hinj, hcell⟩ := mj_ids_schedule_free_up_to_renaming p0 h.leaves s.arrival s'.arrival
    s.stores s'.stores hnd ha ha' hst hst'
  rw [hlen] at hinj hcell
  -- every cell belongs to a leaf
  have hcell' := fun i (hi : i < p0.length) =>
    hcell i (hperm.mem_iff.2 (List.mem_range.2 hi)) hi
  have hl1 := mjAssign_length p0 h.leaves s.arrival s.stores
  have hl2 := mjAssign_length p0 h.leaves s'.arrival s'.stores
  have hlt : ∀ v ∈ Par.mjAssign p0 h.leaves s.arrival s.stores, v < numParts := by
    intro v hv
    obtain ⟨i, hi⟩ := List.mem_iff_getElem?.1 hv
    obtain ⟨v', hv', e1, _⟩ := hcell' i (hl1 ▸ (List.getElem?_eq_some_iff.1 hi).1)
    rw [e1] at hi
    cases hi
    exact hv'
  have hmap : Par.mjAssign p0 h.leaves s'.arrival s'.stores =
      (Par.mjAssign p0 h.leaves s.arrival s.stores).map ρ := by
    apply List.ext_getElem?
    intro i
    by_cases hi : i < p0.length
    · obtain ⟨v, _, e1, e2⟩ := hcell' i hi
      rw [e2, List.getElem?_map, e1]
      rfl
    · rw [List.getElem?_eq_none (hl2 ▸ Nat.le_of_not_lt hi),
        List.getElem?_eq_none (by rw [List.length_map, hl1]; exact Nat.le_of_not_lt hi)]
  refine ⟨_, _, by simp [mjIdsT, hrun], by simp [mjIdsT, hrun'], hl1, hlt, ⟨ρ, hinj, hmap⟩, ?_⟩
  rw [hmap]
  exact canon_renaming_invariant ρ _ (fun a ha b hb => hinj a b (hlt a ha) (hlt b hb))

/-- Non-vacuity: 6 points, 3 parts, two schedules (one block / two blocks per scan, leaves
arriving in order / rotated, stores in order / reversed): different ids, same partition. -/
example :
    mjIdsT ⟨fun n => [n], [0, 1, 2], id⟩ MultiJagged.iroot MultiJagged.isort 2 MultiJagged.k4key
      [1, 1, 1, 1, 1, 1] 6 3 2 [9, 9, 9, 9, 9, 9] = some [1, 1, 0, 0, 2, 2] ∧
    mjIdsT ⟨fun n => [n / 2, n - n / 2], [2, 0, 1], List.reverse⟩ MultiJagged.iroot MultiJagged.isort 2
      MultiJagged.k4key [1, 1, 1, 1, 1, 1] 6 3 2 [9, 9, 9, 9, 9, 9] = some [2, 2, 1, 1, 0, 0] ∧
    canon [1, 1, 0, 0, 2, 2] = canon [2, 2, 1, 1, 0, 0] := by decide +kernel

example : MjSched.Valid ⟨fun n => [n / 2, n - n / 2], [2, 0, 1], List.reverse⟩ 3 :=
  ⟨fun n => by simp only [List.sum_cons, List.sum_nil]; omega, by decide +kernel,
    fun ws => (List.reverse_perm ws).symm⟩

/-- **ZCurve is schedule free**: the reordered permutation is duplicate free (`zsort_sorted`),
position `pos` of it gets `chunkId pos` – a function of the position –, so the stores go to
distinct cells and every order of them leaves the ids of `ZCurve.partition`
(`disjointWrites_comm`).  (`sortBy` = `par_sort_unstable_by_key`, a fixed function: trusted to
be deterministic.) -/
theorem zcurve_schedule_free (stores : List (Nat × Nat) → List (Nat × Nat))
    (hst : ∀ ws : List (Nat × Nat), ws.Perm (stores ws)) (dim order k : Nat)
    (sortBy : (Nat → Nat) → List Nat → List Nat) (hs : Sfc.ZCurve.SortSpec sortBy)
    (region : List Nat → Nat → Nat) (hreg : ∀ path i, region path i < 2 ^ dim) (n : Nat)
    (p0 : List Nat) :
    zPartitionT stores dim order k sortBy region n p0 =
      Sfc.ZCurve.partition dim order k sortBy region n p0 := by
  unfold zPartitionT Sfc.ZCurve.partition
  obtain ⟨perm, hsome, hperm, _⟩ := Sfc.ZCurve.zsort_sorted dim sortBy hs region hreg order (List.range n)
  rw [hsome]
  simp only
  rw [zWriteIdsT_eq stores hst n k perm p0 (hperm.nodup_iff.2 List.nodup_range)]
  -- `ZCurve.partition` writes through the array-backed `writeIdsA`, the same function
  simp only [Sfc.ZCurve.writeIdsA_toList]

example : zPartitionT List.reverse 2 2 3 Sfc.ZCurve.sortByKey
    (fun path i => (i / 4 ^ (1 - path.length)) % 4) 8 [9, 9, 9, 9, 9, 9, 9, 9] =
    Sfc.ZCurve.partition 2 2 3 Sfc.ZCurve.sortByKey
      (fun path i => (i / 4 ^ (1 - path.length)) % 4) 8 [9, 9, 9, 9, 9, 9, 9, 9] := by decide +kernel

/-- The extreme indices (`min_by`/`max_by`) along every split tree. -/
theorem hilbert_minmax_schedule_free (t t' : SplitTree) (xs : List Nat) :
    parMin t xs = parMin t' xs ∧ parMax t xs = parMax t' xs := by
  rw [parMin_schedule_free, parMin_schedule_free, parMax_schedule_free, parMax_schedule_free]
  exact ⟨rfl, rfl⟩

/-- **HilbertCurve is schedule free** (integer weights): the indices are collected in range
order (`parMapCollect_order_free`), their extremes and every pass' per-part weight vector do
not depend on the split trees (`hilbert_partweights_schedule_free`), so the refinement loop
– ANY function of these – ends with the same positions; the id of a point is a function of
its index and the sorted positions, stored in its own cell (`disjointWrites_comm`). -/
theorem hilbert_schedule_free {P : Type} (s s' : HilbertSched) (hs : s.Valid) (hs' : s'.Valid)
    (indexFn : P → Nat)
    (loop : Option (Option Nat) → Option (Option Nat) → (Nat → List Nat → Option (List Int)) → List Nat)
    (pts : List P) (ws : List Int) (n : Nat) (p0 : List Nat) :
    hilbertT s indexFn loop pts ws n p0 = hilbertT s' indexFn loop pts ws n p0 := by
  unfold hilbertT
  simp only [parMapCollect_order_free, parMin_schedule_free, parMax_schedule_free,
    pwOracle_schedule_free s.pwTree s'.pwTree]
  rw [← disjointWrites_comm p0 _ _ (hWrites_nodup _) (hs _),
    ← disjointWrites_comm p0 _ _ (hWrites_nodup _) (hs' _)]

/-- … and the common value is `Sfc.Hilbert.partitionIndexed` (C09's model) on the positions
the loop computes from the sequentially accumulated part weights. -/
theorem hilbert_schedule_free_value {P : Type} (s : HilbertSched) (hs : s.Valid) (indexFn : P → Nat)
    (loop : Option (Option Nat) → Option (Option Nat) → (Nat → List Nat → Option (List Int)) → List Nat)
    (pts : List P) (ws : List Int) (n : Nat) (p0 : List Nat) (hp0 : p0.length = pts.length) :
    hilbertT s indexFn loop pts ws n p0 =
      Sfc.Hilbert.partitionIndexed (pts.map indexFn)
        (loop (some ((pts.map indexFn).foldl (fun a x => optMin a (some x)) none))
          (some ((pts.map indexFn).foldl (fun a x => optMax a (some x)) none))
          (pwOracle (fun _ => .leaf) n (pts.map indexFn) ws)) := by
  unfold hilbertT
  simp only [parMapCollect_order_free, parMin_schedule_free, parMax_schedule_free,
    pwOracle_schedule_free s.pwTree (fun _ => .leaf)]
  rw [← disjointWrites_comm p0 _ _ (hWrites_nodup _) (hs _)]
  apply disjointWrites_hWrites
  simp [Sfc.Hilbert.partitionIndexed, Sfc.Hilbert.assign, hp0]

/-- Non-vacuity: a loop that really reads the oracle (moves the single split to the first
index when the left part is heavier), two schedules. -/
example :
    let loop : Option (Option Nat) → Option (Option Nat) → (Nat → List Nat → Option (List Int)) → List Nat :=
      fun mn mx pw => match pw 0 [10] with
        | some [a, b] => if a > b then [(mn.getD none).getD 0] else [(mx.getD none).getD 0]
        | _ => []
    hilbertT HilbertSched.seq (fun p : Nat => p * p) loop [1, 5, 2, 4, 3] [1, 1, 1, 1, 1] 2 [9, 9, 9, 9, 9]
      = [0, 1, 1, 1, 1] ∧
    hilbertT ⟨.node 2 .leaf .leaf, .node 1 .leaf .leaf, .node 4 .leaf .leaf,
        fun _ => .node 3 (.node 1 .leaf .leaf) .leaf, List.reverse⟩
      (fun p : Nat => p * p) loop [1, 5, 2, 4, 3] [1, 1, 1, 1, 1] 2 [9, 9, 9, 9, 9] = [0, 1, 1, 1, 1] := by
  decide +kernel

/-- **C06 at the level of whole algorithms.**  Under exact arithmetic, for ALL schedules:
Rcb and Rib (in a given integral frame) return the ids of the sequential model; MultiJagged
returns ids equal after renaming by first occurrence; ZCurve and HilbertCurve return the ids
of their sequential models.

What remains OUTSIDE (trusted or not covered):
* that a run of the real code under rayon IS one of these schedules – an indexed parallel
  iterator is evaluated along *some* binary split tree with in-order combination, `fetch_add`s
  take effect in *some* order, relaxed stores to distinct cells behave like sequential writes:
  trusted, tested by the skeleton ops of the correspondence run; rayon's work stealing is not
  modelled;
* floating point: all sums and distances in THIS theorem are exact integers.  For Rcb the
  coordinate arithmetic need not be: `rcb_bb_schedule_free_rounded` holds over every coordinate
  type whose comparisons are a strict weak order (before /repo f4e2819 it did not: defect N11,
  `n11_old_reduce_partition_depends_on_tree`).  With `f64` weight sums associativity fails;
  the harness keeps its weights in the exact regime (`ExactSums`), NaN coordinates are outside;
* the oriented-bounding-box frame of Rib / HilbertCurve / ZCurve (inertia matrix, eigenvector:
  `f64`, parameter `rotate` / `indexFn` / `region` here; K6 lived there) and the Hilbert
  encoder (C08);
* library sorts (`par_sort_unstable_by_key`, `axis_sort`): fixed functions meeting their
  specification, i.e. assumed deterministic; the sequential part of `weighted_quantiles`'
  refinement loop is an arbitrary function of the schedule-free quantities;
* `partition.par_iter().min()` at the end of `rcb` (a minimum of naturals) is evaluated
  sequentially in the model; KMeans and the tools' `dual` have skeleton-level theorems only
  (`Props/C06.lean`).
(`Model/Rcb.lean` folds `par_rcb_split` as one chunk – what rayon does below
`with_min_len(4096)` items; `runT` covers every split tree, hence also larger inputs.) -/
theorem C06_algos :
    (∀ (s : RcbSched), s.Valid → ∀ (fmax fmin : Int) (wt : Int → Int → Bool) (cfg : Rcb.Cfg)
      (iter : Nat) (pts : List (List Int)) (ws : List Int) (plen : Nat),
      (∀ p ∈ pts, ∀ c, c < cfg.dim → fmin ≤ p.getD c 0 ∧ p.getD c 0 ≤ fmax) →
      runT s fmax fmin wt cfg iter pts ws plen = Rcb.run wt cfg iter pts ws plen) ∧
    (∀ (root : Nat → Nat → Nat) (sort : (Nat → Int) → List Nat → List Nat),
      MultiJagged.RootOk root → MultiJagged.SortOk sort → ∀ (s s' : MjSched)
      (dim : Nat) (key : Nat → Nat → Int) (ws : List Nat) (n numParts maxIter : Nat),
      1 ≤ numParts → 1 ≤ maxIter → n ≤ ws.length → s.Valid numParts → s'.Valid numParts →
      ∀ p0 : List Nat, p0.length = n →
      ∃ ids ids', mjIdsT s root sort dim key ws n numParts maxIter p0 = some ids ∧
        mjIdsT s' root sort dim key ws n numParts maxIter p0 = some ids' ∧ canon ids' = canon ids) ∧
    (∀ (stores : List (Nat × Nat) → List (Nat × Nat)), (∀ ws : List (Nat × Nat), ws.Perm (stores ws)) →
      ∀ (dim order k : Nat) (sortBy : (Nat → Nat) → List Nat → List Nat), Sfc.ZCurve.SortSpec sortBy →
      ∀ (region : List Nat → Nat → Nat), (∀ path i, region path i < 2 ^ dim) → ∀ (n : Nat) (p0 : List Nat),
      zPartitionT stores dim order k sortBy region n p0 =
        Sfc.ZCurve.partition dim order k sortBy region n p0) ∧
    (∀ (s s' : HilbertSched), s.Valid → s'.Valid → ∀ (indexFn : Nat → Nat)
      (loop : Option (Option Nat) → Option (Option Nat) → (Nat → List Nat → Option (List Int)) → List Nat)
      (pts : List Nat) (ws : List Int) (n : Nat) (p0 : List Nat),
      hilbertT s indexFn loop pts ws n p0 = hilbertT s' indexFn loop pts ws n p0) := by
  refine ⟨?_, ?_, ?_, ?_⟩
  · intro s hs fmax fmin wt cfg iter pts ws plen hb
    exact rcb_schedule_free s hs fmax fmin wt cfg iter pts ws plen hb
  · intro root sort hr hsort s s' dim key ws n numParts maxIter hn hm hws hs hs' p0 hp0
    obtain ⟨ids, ids', h1, h2, _, _, _, h3⟩ :=
      mj_schedule_free hr hsort s s' dim key ws n numParts maxIter hn hm hws hs hs' p0 hp0
    exact ⟨ids, ids', h1, h2, h3⟩
  · intro stores hst dim order k sortBy hs region hreg n p0
    exact zcurve_schedule_free stores hst dim order k sortBy hs region hreg n p0
  · intro s s' hs hs' indexFn loop pts ws n p0
    exact hilbert_schedule_free s s' hs hs' indexFn loop pts ws n p0

end Coupe.ParAlgos

#print axioms Coupe.ParAlgos.dist_exact_int
#print axioms Coupe.ParAlgos.rcb_scan_tree_free
#print axioms Coupe.ParAlgos.rcb_scan_index_tree_free
#print axioms Coupe.ParAlgos.rcb_split_arrangement_free
#print axioms Coupe.ParAlgos.rcb_ids_arrangement_free
#print axioms Coupe.ParAlgos.rcb_bb_schedule_free
#print axioms Coupe.ParAlgos.rcb_schedule_free
#print axioms Coupe.ParAlgos.rcb_two_schedules
#print axioms Coupe.ParAlgos.rib_schedule_free
#print axioms Coupe.ParAlgos.dist_exact_needed
#print axioms Coupe.ParAlgos.distLaws_int
#print axioms Coupe.ParAlgos.distLaws_rounding
#print axioms Coupe.ParAlgos.rcb_scan_rounded_tree_free
#print axioms Coupe.ParAlgos.rcb_split_schedule_free_rounded
#print axioms Coupe.ParAlgos.rcb_ids_schedule_free_rounded
#print axioms Coupe.ParAlgos.rcb_bb_schedule_free_rounded
#print axioms Coupe.ParAlgos.rcb_schedule_free_rounded
#print axioms Coupe.ParAlgos.rcb_rounded_exact_agree
#print axioms Coupe.ParAlgos.n11_old_reduce_partition_depends_on_tree
#print axioms Coupe.ParAlgos.mj_hierarchy_chunk_free
#print axioms Coupe.ParAlgos.mj_seq_writes
#print axioms Coupe.ParAlgos.mj_schedule_free
#print axioms Coupe.ParAlgos.zcurve_schedule_free
#print axioms Coupe.ParAlgos.hilbert_minmax_schedule_free
#print axioms Coupe.ParAlgos.hilbert_schedule_free
#print axioms Coupe.ParAlgos.hilbert_schedule_free_value
#print axioms Coupe.ParAlgos.C06_algos
