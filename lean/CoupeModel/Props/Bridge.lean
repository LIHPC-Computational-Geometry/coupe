import CoupeModel.Proofs.CutBridge
import CoupeModel.Props.C05
import CoupeModel.Props.C07
import CoupeModel.Props.C14
import CoupeModel.Props.C15
import CoupeModel.Props.C16

/-!
# Bridge — C05 / C07 / C14 / C15 / C16 speak about the same edge cut and the same part loads

* `cutDef g p` (`Proofs/CutBridge.lean`) is THE edge cut: `Σ_{i<j<n, p i ≠ p j} w(i, j)` over the
  unordered pairs, `w(i, j)` = the weight row `i` stores for neighbour `j`.
* `Coupe.load` / `Coupe.loads` (`Model/Basic.lean`) are THE part loads.

Hypotheses, per model (NO model needs "no self-loop" or "indices in range" for its cut to be
`cutDef`: the diagonal and the columns `≥ n` are read by neither side):
* C16 default method / C05 (`filter`): `Symm g` only;
* C15 / C07 (`take_while`): `Symm g` and `SortedRows g` (both necessary: `cut_needs_sorted`,
  `cut_needs_symm`);
* `Fm.Valid g` and `ArcSwap.Sym g` (the owners' hypotheses) imply what is needed.

Factor: all four definitions count every undirected edge ONCE.  `ArcSwap.cut` = `Fm.edgeCut` =
`Kl.edgeCut` = `edgeCutTopo` = `cutDef`; C16's `edgecut_def` states the same with the factor on
the other side (`2 · cut = Σ over ordered pairs`, second half of `metrics_edgeCut_eq_def`).
-/

namespace Coupe.Bridge

open Coupe.Metrics (sumTo entry part)

/-- C16: the default method `Topology::edge_cut` on the rows `g` of a symmetric graph is
`cutDef`; and `cutDef` satisfies C16's characterisation `edgecut_def` (twice the cut = the sum
over all ORDERED pairs in different parts). -/
theorem metrics_edgeCut_eq_def (g : Graph) (p : List Nat) (hs : Symm g) :
    Coupe.Metrics.edgeCutTopo (topoOf g) p = cutDef g p ∧
    2 * cutDef g p =
      sumTo g.length (fun i => sumTo g.length (fun j =>
        if part p i ≠ part p j then entry (row g i) j else 0)) := by
  refine ⟨edgeCutTopo_eq_cutDef g p hs, ?_⟩
  rw [← edgeCutTopo_eq_cutDef g p hs]
  exact Coupe.Metrics.edgecut_def (topoOf g) p hs

/-- C16 on a CSR view: on a valid zero-based symmetric view both code paths (sprs
specialisation, default method) return `cutDef` of the view's rows. -/
theorem metrics_edgeCutSprs_eq_def (cfg : Coupe.Metrics.Cfg) (m : Coupe.Metrics.Csr) (p : List Nat)
    (hv : m.Valid) (hoff : m.offset = 0) (hp : m.n ≤ p.length) (hs : Symm (rowsOf m)) :
    Coupe.Metrics.edgeCutSprs? cfg m p = .val (cutDef (rowsOf m) p) ∧
    Coupe.Metrics.edgeCutGeneric? m.topo p = some (cutDef (rowsOf m) p) := by
  have h := Coupe.Metrics.edgecut_sprs_eq_generic cfg m p hv hoff hp
  rw [edgeCutTopo_rowsOf m p, edgeCutTopo_eq_cutDef _ p hs] at h
  exact h

/-- C15: `Kl.edgeCut` is `cutDef` on a symmetric graph with sorted rows. -/
theorem kl_edgeCut_eq_def (g : Coupe.Kl.Graph) (p : List Nat) (hsort : SortedRows g) (hs : Symm g) :
    Coupe.Kl.edgeCut g p = cutDef g p :=
  (kl_edgeCut_eq_topo g p hsort).trans (edgeCutTopo_eq_cutDef g p hs)

/-- C07: `Fm.edgeCut` is `cutDef` on a `Valid` graph (C07's own hypothesis). -/
theorem fm_edgeCut_eq_def (g : Coupe.Fm.Graph) (p : List Nat) (V : Coupe.Fm.Valid g) :
    Coupe.Fm.edgeCut g p = cutDef g p :=
  kl_edgeCut_eq_def g p (sorted_of_fm_valid V) (symm_of_fm_valid V)

/-- C05: `ArcSwap.cut` is `cutDef` – every undirected edge ONCE, factor 1 – on a symmetric graph
(C05's own `Sym`; `NoLoop` and `InRange` are not needed). -/
theorem arcswap_cut_eq_def (g : Coupe.ArcSwap.Graph) (p : List Nat) (hs : Coupe.ArcSwap.Sym g) :
    Coupe.ArcSwap.cut g p = cutDef g p :=
  (arcswap_cut_eq_topo g p).trans (edgeCutTopo_eq_cutDef g p (symm_of_arcswap_sym hs))

/-- Without symmetry: on sorted rows the four CODE-level definitions are the same function. -/
theorem cuts_agree_sorted (g : Graph) (p : List Nat) (hsort : SortedRows g) :
    Coupe.Kl.edgeCut g p = Coupe.Fm.edgeCut g p ∧
    Coupe.Fm.edgeCut g p = Coupe.ArcSwap.cut g p ∧
    Coupe.ArcSwap.cut g p = Coupe.Metrics.edgeCutTopo (topoOf g) p :=
  ⟨rfl, (kl_edgeCut_eq_topo g p hsort).trans (arcswap_cut_eq_topo g p).symm,
   arcswap_cut_eq_topo g p⟩

/-- The owners' hypotheses give the bridge's. -/
theorem hyps_imply (g : Graph) :
    (Coupe.Fm.Valid g → Symm g ∧ SortedRows g) ∧ (Coupe.ArcSwap.Sym g → Symm g) :=
  ⟨fun V => ⟨symm_of_fm_valid V, sorted_of_fm_valid V⟩, symm_of_arcswap_sym⟩

/-- Sortedness is needed for C15 / C07 (`take_while` stops at the first column `≥ row`): the
symmetric path `0 –3– 1 –5– 2` with row 1 stored as `[(2,5),(0,3)]`, parts `[0,1,1]`:
the cut is 3, `ArcSwap.cut` (filter) finds it, `Kl.edgeCut` = `Fm.edgeCut` answer 0. -/
theorem cut_needs_sorted :
    let g : Graph := [[(1, 3)], [(2, 5), (0, 3)], [(1, 5)]]
    Symm g ∧ Coupe.ArcSwap.Sym g ∧ ¬ SortedRows g ∧ cutDef g [0, 1, 1] = 3 ∧
      Coupe.ArcSwap.cut g [0, 1, 1] = 3 ∧ Coupe.Kl.edgeCut g [0, 1, 1] = 0 ∧
      Coupe.Fm.edgeCut g [0, 1, 1] = 0 := by
  decide +kernel

/-- Symmetry is needed: the code reads the LOWER triangle (`neighbour < vertex`), `cutDef` the
upper one; on the matrix whose only entry is `(0,1) = 5` they differ. -/
theorem cut_needs_symm :
    let g : Graph := [[(1, 5)], []]
    SortedRows g ∧ ¬ Symm g ∧ cutDef g [0, 1] = 5 ∧ Coupe.Kl.edgeCut g [0, 1] = 0 ∧
      Coupe.ArcSwap.cut g [0, 1] = 0 := by
  decide +kernel

/-- C15 `kl_cut_le` over THE edge cut. -/
theorem kl_cut_le_def (g : Coupe.Kl.Graph) (wlen : Nat) (mp mf : Option Nat) (mb : Nat)
    (p out : List Nat) (hsort : SortedRows g) (hs : Symm g)
    (h : Coupe.Kl.run {} g wlen mp mf mb p = .ok out) :
    cutDef g out ≤ cutDef g p := by
  rw [← kl_edgeCut_eq_def g out hsort hs, ← kl_edgeCut_eq_def g p hsort hs]
  exact Coupe.Kl.kl_cut_le g wlen mp mf mb p out h

/-- C07 `fm_cut_le` over THE edge cut (every build, every choice function, every cap). -/
theorem fm_cut_le_def (ch : Nat → Nat → Nat) (prm : Coupe.Fm.Params) (capOpt : Option Int)
    (g : Coupe.Fm.Graph) (ws : List Int) (p : List Nat) (r : Coupe.Fm.Result) (V : Coupe.Fm.Valid g)
    (h : Coupe.Fm.run ch prm capOpt g ws p = .ok r) :
    cutDef g r.part ≤ cutDef g p := by
  rw [← fm_edgeCut_eq_def g r.part V, ← fm_edgeCut_eq_def g p V]
  exact Coupe.Fm.fm_cut_le ch prm capOpt g ws p r V h

/-- C07 `cut_track` over THE edge cut: the tracked `current_edge_cut` IS the edge cut. -/
theorem fm_cut_track_def (ch : Nat → Nat) (prm : Coupe.Fm.Params) (g : Coupe.Fm.Graph)
    (ws : List Int) (cap : Int) (o : Coupe.Fm.Outer) (fuel : Nat) (st : Coupe.Fm.PassSt)
    (V : Coupe.Fm.Valid g)
    (hg : o.part.length = g.length) (hws : o.part.length = ws.length)
    (hle : ∀ i ∈ o.part, i ≤ 1) (hp0 : o.pw0 = Coupe.load ws o.part 0)
    (hp1 : o.pw1 = Coupe.load ws o.part 1) (hb : o.best = cutDef g o.part)
    (h : Coupe.Fm.movesLoop ch prm g ws cap (Coupe.Fm.maxPossibleGain g) fuel 0
      (Coupe.Fm.initPass g o) = .ok st) :
    st.cur = cutDef g st.part := by
  rw [← fm_edgeCut_eq_def g st.part V]
  exact Coupe.Fm.cut_track ch prm g ws cap o fuel st V hg hws hle
    (by rw [Coupe.Fm.load_eq_basic]; exact hp0) (by rw [Coupe.Fm.load_eq_basic]; exact hp1)
    (by rw [fm_edgeCut_eq_def g o.part V]; exact hb) h

/-- C05 `cut_acct` over THE edge cut: in every reachable state (any interleaving)
`cut = cut(input) − all gains applied so far`, with factor 1 (`edge_cut_gain` is in units of
the edge cut itself, not of twice the cut). -/
theorem arcswap_cut_acct_def {c : Coupe.ArcSwap.Cfg} {p₀ : List Nat} {s : Coupe.ArcSwap.State}
    (hy : Coupe.ArcSwap.Hyp c p₀) (h : Coupe.ArcSwap.Reach c p₀ s) :
    cutDef c.g s.parts = cutDef c.g p₀ - (s.md.edgeCutGain + Coupe.ArcSwap.passGain s) ∧
    0 ≤ s.md.edgeCutGain ∧ ∀ t ∈ s.tasks, 0 ≤ t.md.edgeCutGain := by
  rw [← arcswap_cut_eq_def c.g s.parts hy.gsym, ← arcswap_cut_eq_def c.g p₀ hy.gsym]
  exact Coupe.ArcSwap.cut_acct hy h

/-- C05 `gain_pos` over THE edge cut: the gain a task is about to apply is the exact decrease of
the edge cut caused by its store. -/
theorem arcswap_gain_pos_def {c : Coupe.ArcSwap.Cfg} {p₀ : List Nat} {s : Coupe.ArcSwap.State}
    (hy : Coupe.ArcSwap.Hyp c p₀) (h : Coupe.ArcSwap.Reach c p₀ s) {i : Nat}
    {t : Coupe.ArcSwap.Task} {v ip tgt : Nat} {gain : Int}
    (ht : s.tasks[i]? = some t) (hpc : t.pc = .store v ip tgt gain) :
    0 < gain ∧ cutDef c.g (s.parts.set v tgt) = cutDef c.g s.parts - gain := by
  rw [← arcswap_cut_eq_def c.g _ hy.gsym, ← arcswap_cut_eq_def c.g s.parts hy.gsym]
  exact Coupe.ArcSwap.gain_pos hy h ht hpc

/-- C05 `arcswap_correct` over THE edge cut and THE loads (`Coupe.loads`): whatever the
schedules, an `ok` outcome has `cut_out = cut_in − edge_cut_gain` (factor 1), `edge_cut_gain ≥ 0`,
and every part weighs at most the larger of its input weight and the cap. -/
theorem arcswap_correct_def {c : Coupe.ArcSwap.Cfg} {p₀ : List Nat}
    (hy : Coupe.ArcSwap.Hyp c p₀) {scheds : List (List Nat)} {fuel passes : Nat}
    {ids : List Nat} {md : Coupe.ArcSwap.Metadata}
    {tr : List (List (Nat × Coupe.ArcSwap.Event))}
    (hr : Coupe.ArcSwap.run c p₀ scheds fuel passes = (.ok ids md, tr)) :
    cutDef c.g ids = cutDef c.g p₀ - md.edgeCutGain ∧ 0 ≤ md.edgeCutGain ∧
    cutDef c.g ids ≤ cutDef c.g p₀ ∧
    (∀ k, k < c.partCount →
      (Coupe.loads c.w ids c.partCount).getD k 0 ≤
        max ((Coupe.loads c.w p₀ c.partCount).getD k 0) c.maxPw) := by
  obtain ⟨-, -, h3, h4, h5, -⟩ := Coupe.ArcSwap.arcswap_correct hy hr
  rw [arcswap_cut_eq_def c.g ids hy.gsym, arcswap_cut_eq_def c.g p₀ hy.gsym] at h3
  refine ⟨h3, h4, by omega, fun k hk => ?_⟩
  rw [loads_getD _ _ hk, loads_getD _ _ hk]
  exact h5 k hk

/-- End to end, C15 + C16: KernighanLin is handed the rows of a valid zero-based symmetric CSR
view `m`; the metric `edge_cut` of the repository (sprs specialisation, C16's model) evaluated on
`m` does not panic on either partition and is not larger on the output than on the input. -/
theorem kl_cut_le_metric (cfg : Coupe.Metrics.Cfg) (m : Coupe.Metrics.Csr) (wlen : Nat)
    (mp mf : Option Nat) (mb : Nat) (p out : List Nat)
    (hv : m.Valid) (hoff : m.offset = 0) (hp : m.n ≤ p.length) (hs : Symm (rowsOf m))
    (h : Coupe.Kl.run {} (rowsOf m) wlen mp mf mb p = .ok out) :
    ∃ a b, Coupe.Metrics.edgeCutSprs? cfg m out = .val a ∧
      Coupe.Metrics.edgeCutSprs? cfg m p = .val b ∧ a ≤ b := by
  have hlen := (Coupe.Kl.kl_ids (rowsOf m) wlen mp mf mb p out h).1
  exact ⟨_, _, (metrics_edgeCutSprs_eq_def cfg m out hv hoff (by omega) hs).1,
    (metrics_edgeCutSprs_eq_def cfg m p hv hoff hp hs).1,
    kl_cut_le_def (rowsOf m) wlen mp mf mb p out (sorted_of_csr_valid hv) hs h⟩

/-- End to end, C07 + C16: the same for FiducciaMattheyses. -/
theorem fm_cut_le_metric (cfg : Coupe.Metrics.Cfg) (m : Coupe.Metrics.Csr)
    (ch : Nat → Nat → Nat) (prm : Coupe.Fm.Params) (capOpt : Option Int)
    (ws : List Int) (p : List Nat) (r : Coupe.Fm.Result)
    (hv : m.Valid) (hoff : m.offset = 0) (hp : m.n ≤ p.length) (V : Coupe.Fm.Valid (rowsOf m))
    (h : Coupe.Fm.run ch prm capOpt (rowsOf m) ws p = .ok r) :
    ∃ a b, Coupe.Metrics.edgeCutSprs? cfg m r.part = .val a ∧
      Coupe.Metrics.edgeCutSprs? cfg m p = .val b ∧ a ≤ b := by
  have hlen := (Coupe.Fm.fm_ids ch prm capOpt (rowsOf m) ws p r h).1
  have hs := symm_of_fm_valid V
  exact ⟨_, _, (metrics_edgeCutSprs_eq_def cfg m r.part hv hoff (by omega) hs).1,
    (metrics_edgeCutSprs_eq_def cfg m p hv hoff hp hs).1,
    fm_cut_le_def ch prm capOpt (rowsOf m) ws p r V h⟩

/-- C07: the model's `load` is `Coupe.load`, and its pair of part weights is `Coupe.loads … 2`. -/
theorem fm_load_eq_def (ws : List Int) (ids : List Nat) :
    (∀ k, Coupe.Fm.load ws ids k = Coupe.load ws ids k) ∧
    [Coupe.Fm.load ws ids 0, Coupe.Fm.load ws ids 1] = Coupe.loads ws ids 2 := by
  refine ⟨Coupe.Fm.load_eq_basic ws ids, ?_⟩
  rw [Coupe.Fm.load_eq_basic, Coupe.Fm.load_eq_basic]
  rfl

/-- C07 `fm_cap` over THE loads. -/
theorem fm_cap_def (ch : Nat → Nat → Nat) (prm : Coupe.Fm.Params) (capOpt : Option Int)
    (g : Coupe.Fm.Graph) (ws : List Int) (p : List Nat) (r : Coupe.Fm.Result)
    (hnn : ∀ w ∈ ws, 0 ≤ w)
    (h : Coupe.Fm.run ch prm capOpt g ws p = .ok r) :
    ∀ k < 2, (Coupe.loads ws r.part 2).getD k 0 ≤
      max ((Coupe.loads ws p 2).getD k 0) (fmCap capOpt ws p) := by
  intro k hk
  have h1 := Coupe.Fm.fm_cap ch prm capOpt g ws p r hnn h k hk
  have hc : Coupe.Fm.capOf capOpt ws p = fmCap capOpt ws p := by
    unfold Coupe.Fm.capOf fmCap
    cases capOpt with
    | some c => rfl
    | none => simp only [Coupe.Fm.load_eq_basic]
  rw [Coupe.Fm.load_eq_basic, Coupe.Fm.load_eq_basic, hc] at h1
  rw [loads_getD _ _ hk, loads_getD _ _ hk]
  exact h1

/-- C05 `cap` over `Coupe.loads` (C05 already states it with `Coupe.load`; its initial
`part_weights` are `Coupe.loads` by definition of `initState`). -/
theorem arcswap_cap_def {c : Coupe.ArcSwap.Cfg} {p₀ : List Nat} {s : Coupe.ArcSwap.State}
    (hy : Coupe.ArcSwap.Hyp c p₀) (h : Coupe.ArcSwap.Reach c p₀ s) (k : Nat) (hk : k < c.partCount) :
    (Coupe.loads c.w s.parts c.partCount).getD k 0 ≤
      max ((Coupe.loads c.w p₀ c.partCount).getD k 0) c.maxPw ∧
    (Coupe.ArcSwap.initState c p₀).pw = Coupe.loads c.w p₀ c.partCount := by
  refine ⟨?_, rfl⟩
  rw [loads_getD _ _ hk, loads_getD _ _ hk]
  exact Coupe.ArcSwap.cap hy h k hk

/-- C16: what `imbalance.rs: compute_parts_load` returns is `Coupe.loads` (C16's `loads_def`). -/
theorem metrics_loads_eq_def (p : List Nat) (k : Nat) (ws : List Int) (hk : 0 < k)
    (hp : ∀ x ∈ p, x < k) :
    Coupe.Metrics.computePartsLoad? p k ws = some (Coupe.loads ws p k) :=
  (Coupe.Metrics.loads_def p k ws).1 hk hp

/-- C14's private `gap` of the load table is the value C16's `max_imbalance` returns. -/
theorem vn_gap_eq_def (ws : List Int) (ids : List Nat) (k : Nat) (hk : 0 < k)
    (hp : ∀ x ∈ ids, x < k) :
    Coupe.Metrics.maxImbalance? k ids ws = some (Coupe.Vn.gap (Coupe.loads ws ids k)) := by
  obtain ⟨a, b, ha, hb, hall, hm⟩ := Coupe.Metrics.max_imbalance_def k ids ws hk hp
  rw [hm]
  have hne : Coupe.loads ws ids k ≠ [] := List.ne_nil_of_mem ha
  have h1 := Coupe.Vn.minL_le ha
  have h2 := Coupe.Vn.le_maxL hb
  have h3 := (hall _ (Coupe.Vn.minL_mem hne)).1
  have h4 := (hall _ (Coupe.Vn.maxL_mem hne)).2
  simp only [Coupe.Vn.gap]
  congr 1
  omega

/-- C14 `vnbest_gap_le` over C16's metric: `max_imbalance` (greatest load − least load over the
`k = part_count(input)` parts, loads = `Coupe.loads`) of the output is at most the input's. -/
theorem vnbest_gap_le_def (cfg : Coupe.Vn.Cfg) (ids ids' : List Nat) (ws : List Int) (c : Nat)
    (h : Coupe.VnBest.run cfg ids ws = .ok ids' c) :
    ∃ a b, Coupe.Metrics.maxImbalance? (Coupe.Vn.partCount ids) ids' ws = some a ∧
      Coupe.Metrics.maxImbalance? (Coupe.Vn.partCount ids) ids ws = some b ∧ a ≤ b := by
  have hk : 0 < Coupe.Vn.partCount ids := by unfold Coupe.Vn.partCount; omega
  exact ⟨_, _, vn_gap_eq_def ws ids' _ hk (Coupe.Vn.vnbest_total_preserved cfg ids ids' ws c h).2.1,
    vn_gap_eq_def ws ids _ hk (Coupe.Vn.inRange_partCount ids),
    Coupe.Vn.vnbest_gap_le cfg ids ids' ws c h⟩

/-- C14 `vnfirst_gap_le` over C16's metric. -/
theorem vnfirst_gap_le_def (cfg : Coupe.Vn.Cfg) (hb : cfg.breakAfterMove = true)
    (ids ids' : List Nat) (ws : List Int) (c : Nat)
    (hu : cfg.unsigned = true → ∀ w ∈ ws, 0 ≤ w)
    (h : Coupe.VnFirst.run cfg ids ws = .ok ids' c) :
    ∃ a b, Coupe.Metrics.maxImbalance? (Coupe.Vn.partCount ids) ids' ws = some a ∧
      Coupe.Metrics.maxImbalance? (Coupe.Vn.partCount ids) ids ws = some b ∧ a ≤ b := by
  have hk : 0 < Coupe.Vn.partCount ids := by unfold Coupe.Vn.partCount; omega
  exact ⟨_, _,
    vn_gap_eq_def ws ids' _ hk (Coupe.Vn.vnfirst_total_preserved cfg hb ids ids' ws c hu h).2.1,
    vn_gap_eq_def ws ids _ hk (Coupe.Vn.inRange_partCount ids),
    Coupe.Vn.vnfirst_gap_le cfg hb ids ids' ws c hu h⟩

/-- The hypotheses of `kl_cut_le_def` are met by C15's example, on which KL does real work
(`cutDef` 7 → 1). -/
example : SortedRows (Coupe.Kl.pathGraph 8) ∧ Symm (Coupe.Kl.pathGraph 8) ∧
    Coupe.Kl.run {} (Coupe.Kl.pathGraph 8) 8 none none 1 [0,1,0,1,0,1,0,1] = .ok [0,0,0,0,1,1,1,1] ∧
    cutDef (Coupe.Kl.pathGraph 8) [0,1,0,1,0,1,0,1] = 7 ∧
    cutDef (Coupe.Kl.pathGraph 8) [0,0,0,0,1,1,1,1] = 1 := by decide +kernel

/-- C07's weighted 4-cycle: `Valid`, `cutDef` 7 → 3 on the run of C07's example. -/
example : Coupe.Fm.Valid Coupe.Fm.g4 ∧ cutDef Coupe.Fm.g4 [0,1,0,1] = 7 ∧
    cutDef Coupe.Fm.g4 [1,1,0,0] = 3 := ⟨Coupe.Fm.valid_g4, by decide +kernel, by decide +kernel⟩

/-- C05's example configuration: `Hyp` holds, `cutDef` 2 → 0 with `edge_cut_gain = 2`. -/
example : Coupe.ArcSwap.Hyp Coupe.ArcSwap.exCfg [0, 1, 0] ∧
    cutDef Coupe.ArcSwap.exCfg.g [0, 1, 0] = 2 ∧ cutDef Coupe.ArcSwap.exCfg.g [1, 1, 1] = 0 :=
  ⟨Coupe.ArcSwap.hyp_of_check (by decide +kernel), by decide +kernel, by decide +kernel⟩

/-- C16's example matrix (valid, zero-based, symmetric, with an empty row): its rows are what
the other models would receive, and both code paths return `cutDef = 4`. -/
example :
    let m : Coupe.Metrics.Csr := ⟨[0, 2, 3, 3, 4], [1, 3, 0, 0], [4, 6, 4, 6]⟩
    m.Valid ∧ m.offset = 0 ∧
      rowsOf m = [[(1, 4), (3, 6)], [(0, 4)], [], [(0, 6)]] ∧ Symm (rowsOf m) ∧
      cutDef (rowsOf m) [0, 1, 1, 0] = 4 ∧
      Coupe.Metrics.edgeCutSprs? Coupe.Metrics.Cfg.current m [0, 1, 1, 0] = .val 4 := by decide +kernel

end Coupe.Bridge

#print axioms Coupe.Bridge.metrics_edgeCut_eq_def
#print axioms Coupe.Bridge.metrics_edgeCutSprs_eq_def
#print axioms Coupe.Bridge.kl_edgeCut_eq_def
#print axioms Coupe.Bridge.fm_edgeCut_eq_def
#print axioms Coupe.Bridge.arcswap_cut_eq_def
#print axioms Coupe.Bridge.cuts_agree_sorted
#print axioms Coupe.Bridge.hyps_imply
#print axioms Coupe.Bridge.cut_needs_sorted
#print axioms Coupe.Bridge.cut_needs_symm
#print axioms Coupe.Bridge.kl_cut_le_def
#print axioms Coupe.Bridge.fm_cut_le_def
#print axioms Coupe.Bridge.fm_cut_track_def
#print axioms Coupe.Bridge.arcswap_cut_acct_def
#print axioms Coupe.Bridge.arcswap_gain_pos_def
#print axioms Coupe.Bridge.arcswap_correct_def
#print axioms Coupe.Bridge.kl_cut_le_metric
#print axioms Coupe.Bridge.fm_cut_le_metric
#print axioms Coupe.Bridge.fm_load_eq_def
#print axioms Coupe.Bridge.fm_cap_def
#print axioms Coupe.Bridge.arcswap_cap_def
#print axioms Coupe.Bridge.metrics_loads_eq_def
#print axioms Coupe.Bridge.vn_gap_eq_def
#print axioms Coupe.Bridge.vnbest_gap_le_def
#print axioms Coupe.Bridge.vnfirst_gap_le_def
