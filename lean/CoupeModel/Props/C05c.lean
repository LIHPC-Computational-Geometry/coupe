import CoupeModel.Model.Basic
import CoupeModel.Model.ArcSwap
import CoupeModel.Proofs.ArcSwapMerge
import CoupeModel.Props.C05

/-!
# C05 (continued) — the end-of-pass merge of the part weights stays in range (defect K9)

Property theorems only (lemmas: `Proofs/ArcSwapMerge.lean`).

`arc_swap.rs` ends every pass by folding the tasks' thread-local part-weight arrays back
into `part_weights`.  Until the repair of K9 it summed the arrays (`*pw1 += pw2` in the
rayon reduce) and computed `PW ← Σ tPWᵢ − (thread_count − 1)·PW`: correct in exact
arithmetic (`merge_eq_old`) but the intermediate sum is about `thread_count × PW`
(`old_merge_sum_idle`, `old_merge_leaves_range`), which overflows the weight type
although every part weight and the total fit.  The repaired code reduces, per part, what
each task brought in (`gains`) and what it took out (`losses`) and applies
`*pw += gain; *pw -= loss`.

The theorems below say that EVERY value the repaired merge can hold — each task's gain
and loss, the sum over any sub-collection of the tasks (rayon may combine the results
along any tree, and the identity elements are zeros), the weight after the gains were
added, and the final weight — lies between 0 and `max(load of the part in the input,
max_part_weight)`, in every reachable state (any graph, any number of tasks, any
interleaving, any pass).  Both ends of that range are values the caller already needs
the weight type to hold, so the merge cannot overflow a signed or an unsigned type.

Not covered (stated, not proved): the thread-local array of a task DURING a pass
(`part_weights[initial_part] -= weight`) is bounded above by `budget`/`cap` but not
below: a task that moves more weight out of a part than the pass started with — possible
only when other tasks move weight into that part meanwhile — takes an unsigned entry
below zero.  That subtraction is the same before and after the repair.
-/

namespace Coupe.ArcSwap

variable {c : Cfg} {p₀ : List Nat} {s : State}

/-- The values the weight type is known to hold for part `p`: from zero to the larger of
the part's input load and the cap. -/
def PwFits (c : Cfg) (p₀ : List Nat) (p : Nat) (x : Int) : Prop :=
  0 ≤ x ∧ x ≤ max (Coupe.load c.w p₀ p) c.maxPw

/-- In exact arithmetic the repaired merge computes what the old formula computed. -/
theorem merge_eq_old (c : Cfg) (s : State) (hn : s.tasks.length = c.threadCount) :
    mergePw c s = mergePwOld c s := by
  unfold mergePw mergePwOld
  apply List.map_congr_left
  intro x _
  have h := gainSum_sub_lossSum s.tasks x.2 x.1
  rw [sum_map_sub_const, hn] at h
  unfold gainSum lossSum
  rw [Int.sub_mul, Int.one_mul]
  omega

/-- Any partial result of the reduce over the gains is in range, and so is the weight
with those gains added. -/
theorem merge_gains_in_range (hy : Hyp c p₀) (h : Reach c p₀ s) (p : Nat) (hp : p < c.partCount)
    {l' : List Task} (hl : l'.Sublist s.tasks) :
    PwFits c p₀ p (mGain l' p (s.pw.getD p 0)) ∧
    PwFits c p₀ p (s.pw.getD p 0 + mGain l' p (s.pw.getD p 0)) := by
  have h2 := inv2_reach hy h
  have hpw := pw_nonneg_reach hy h p hp
  have hall := gain_all_le hy h2 p hp
  have hsub := mGain_sublist_le p (s.pw.getD p 0) hl
  have h0 := mGain_nonneg l' p (s.pw.getD p 0)
  unfold PwFits
  omega

/-- Any partial result of the reduce over the losses is in range. -/
theorem merge_losses_in_range (hy : Hyp c p₀) (h : Reach c p₀ s) (p : Nat) (hp : p < c.partCount)
    {l' : List Task} (hl : l'.Sublist s.tasks) :
    PwFits c p₀ p (mLoss l' p (s.pw.getD p 0)) := by
  have h2 := inv2_reach hy h
  have hall := gain_all_le hy h2 p hp
  have hsub := mLoss_sublist_le p (s.pw.getD p 0) hl
  have h0 := mLoss_nonneg l' p (s.pw.getD p 0)
  have hload := merge_is_load h2 p hp
  have hl0 := load_nonneg c.w s.parts p hy.wnonneg
  unfold PwFits
  omega

/-- One task's own `gains[p]` and `losses[p]` are in range. -/
theorem merge_task_in_range (hy : Hyp c p₀) (h : Reach c p₀ s) (p : Nat) (hp : p < c.partCount)
    {t : Task} (ht : t ∈ s.tasks) :
    PwFits c p₀ p (taskGain (s.pw.getD p 0) (t.pw.getD p 0)) ∧
    PwFits c p₀ p (taskLoss (s.pw.getD p 0) (t.pw.getD p 0)) := by
  have hs : [t].Sublist s.tasks := List.singleton_sublist.2 ht
  have g := (merge_gains_in_range hy h p hp hs).1
  have l := merge_losses_in_range hy h p hp hs
  simpa [mGain, mLoss] using And.intro g l

/-- The two updates `*pw += gain; *pw -= loss` stay in range and end on the true load of
the part. -/
theorem merge_updates_in_range (hy : Hyp c p₀) (h : Reach c p₀ s) (p : Nat) (hp : p < c.partCount) :
    PwFits c p₀ p (s.pw.getD p 0 + gainSum s p (s.pw.getD p 0)) ∧
    PwFits c p₀ p ((mergePw c s).getD p 0) ∧
    (mergePw c s).getD p 0 = Coupe.load c.w s.parts p := by
  have h2 := inv2_reach hy h
  have e : (mergePw c s).getD p 0 = Coupe.load c.w s.parts p :=
    (mergePw_getD c s p (h2.pwlen.1 ▸ hp)).trans (merge_is_load h2 p hp)
  exact ⟨(merge_gains_in_range hy h p hp (.refl s.tasks)).2,
    e ▸ ⟨load_nonneg c.w s.parts p hy.wnonneg, h2.cap hy p hp⟩, e⟩

/-- With a single task (a pool of one worker, or fewer vertices than workers need) the task's
thread-local array IS the vector of true loads at every step, hence never negative: in that case
no subtraction of the pass underflows an unsigned weight type either.  (For several tasks no
lower bound is proved, see the header.) -/
theorem single_task_pw_is_load (hy : Hyp c p₀) (h : Reach c p₀ s) (hone : c.threadCount = 1)
    {t : Task} (ht : t ∈ s.tasks) (p : Nat) (hp : p < c.partCount) :
    t.pw.getD p 0 = Coupe.load c.w s.parts p ∧ 0 ≤ t.pw.getD p 0 := by
  have h2 := inv2_reach hy h
  obtain ⟨t', ht'⟩ := List.length_eq_one_iff.1 (h2.ntasks.trans hone)
  have hl := h2.loadAcct p hp
  rw [ht'] at ht hl
  cases List.mem_singleton.1 ht
  simp only [List.map_cons, List.map_nil, List.sum_cons, List.sum_nil] at hl
  have e : t.pw.getD p 0 = Coupe.load c.w s.parts p := by omega
  exact ⟨e, e ▸ load_nonneg c.w s.parts p hy.wnonneg⟩

/-- The old merge's intermediate value: while no task has moved anything (e.g. a pass that
finds no improving move — every run ends with one) the summed arrays hold
`thread_count × PW`. -/
theorem old_merge_sum_idle (c : Cfg) (s : State) (p : Nat) (hidle : ∀ t ∈ s.tasks, t.pw = s.pw) :
    (s.tasks.map fun t => t.pw.getD p 0).sum = s.tasks.length * s.pw.getD p 0 := by
  have h0 := sum_map_zero s.tasks (fun t => t.pw.getD p 0 - s.pw.getD p 0)
    fun t ht => by rw [hidle t ht]; exact Int.sub_self _
  rw [sum_map_sub_const] at h0
  omega

/-- K9, kernel-checked: a valid input (path on three vertices, unit weights, cap = heaviest
part = 2, two tasks) whose very first state makes the old merge hold 4 for part 0 —
outside the range `0 … 2` that the repaired merge provably never leaves. -/
theorem old_merge_leaves_range :
    let c := mkCfg [[(1, 1)], [(0, 1), (2, 1)], [(1, 1)]] [1, 1, 1] [0, 1, 0] 2 2
    let s := beginPass c (initState c [0, 1, 0])
    Hyp c [0, 1, 0] ∧ Reach c [0, 1, 0] s ∧
    ¬ PwFits c [0, 1, 0] 0 ((s.tasks.map fun t => t.pw.getD 0 0).sum) ∧
    PwFits c [0, 1, 0] 0 (s.pw.getD 0 0 + gainSum s 0 (s.pw.getD 0 0)) := by
  refine ⟨hyp_of_check (by decide), Reach.init, ?_, ?_⟩
  · unfold PwFits; decide +kernel
  · unfold PwFits; decide +kernel

/-- The hypotheses of the range theorems are met non-trivially: in the three-pass run of
`Props/C05.lean` (a conflict, two moves) the state after the first move has a task with a
positive gain and a positive loss. -/
example : ∃ s, Reach exCfg [0, 1, 0] s ∧ ∃ t ∈ s.tasks,
    0 < taskGain (s.pw.getD 1 0) (t.pw.getD 1 0) ∧ 0 < taskLoss (s.pw.getD 0 0) (t.pw.getD 0 0) := by
  refine ⟨(runSchedule exCfg (beginPass exCfg (initState exCfg [0, 1, 0])) (List.replicate 18 0) []).1,
    runSchedule_reach _ _ Reach.init, ?_⟩
  decide +kernel

end Coupe.ArcSwap

#print axioms Coupe.ArcSwap.merge_eq_old
#print axioms Coupe.ArcSwap.merge_gains_in_range
#print axioms Coupe.ArcSwap.merge_losses_in_range
#print axioms Coupe.ArcSwap.merge_task_in_range
#print axioms Coupe.ArcSwap.merge_updates_in_range
#print axioms Coupe.ArcSwap.single_task_pw_is_load
#print axioms Coupe.ArcSwap.old_merge_sum_idle
#print axioms Coupe.ArcSwap.old_merge_leaves_range
