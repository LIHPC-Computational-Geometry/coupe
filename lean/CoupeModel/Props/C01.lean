import CoupeModel.Model.Random
import CoupeModel.Proofs.Random
import CoupeModel.Proofs.EntryChecks
import CoupeModel.Props.C03
import CoupeModel.Props.C09
import CoupeModel.Props.C10
import CoupeModel.Props.C11
import CoupeModel.Props.C12
import CoupeModel.Props.C13

/-!
# C01 — every partitioner gives every element a part id below the requested count

C01 is an umbrella: it adds no algorithm model of its own (except the three
lines of `coupe::Random`, `Model/Random.lean`, which no other property covers).
Per partition-creating algorithm `A` the property is the triple

* `A.length_ok` – on `Ok` one id per element (the array keeps its length, every
  cell has been written: the model's output replaces the caller's array),
* `A.ids_lt`    – on `Ok` every id is below the number of parts asked for
  (`2^iter_count` for the recursive bisections, `2` for CompleteKarmarkarKarp),
* `A.total`     – inside the usage contract the run returns: no panic site is
  reached, no loop runs out of fuel ("does not hang"); for
  CompleteKarmarkarKarp the legitimate outcome `NotFound` is allowed,

each re-stated here in the wording of C01 and proved from the theorems of the
property that owns the model of `A` (C13: Ckk; C12: Greedy, KarmarkarKarp;
C10: `Grid::rcb`).  "For every worker-thread count": the sequential algorithms
do not read the pool size; where the code does (`Grid::rcb`,
`rayon::current_num_threads()`), `T` is a model parameter and the theorems are
for all `T`.

All twelve partitioners are covered: Ckk (C13), Greedy and KarmarkarKarp (C12),
Grid 2-D/3-D (C10), Rcb and Rib (C03), HilbertCurve 2-D/3-D and ZCurve (C09),
MultiJagged (C11), Random (own model).  Totality is partial in exactly two
places, as with the owners: Rcb/Rib (proved for every ranked coordinate type,
`Rcb.total_ranked` / `Rib.total_ranked`, `Int` instance proved in `Rcb.total_int`;
that `f32` meets the rank laws is IEEE-754 reasoning, trusted, on the domain the header of
`Proofs/RcbRanked.lean` gives; without a rank `Rcb.total_statement` is
open and `Rcb.total_partial` is what holds) and
HilbertCurve (the settle loop of `weighted_quantiles` has no termination proof:
`Hilbert.total_statement`, shown equivalent to C09's
`quantiles_terminates_statement`, and `Hilbert.total_partial`).
-/

namespace Coupe.C01

/-! ## CompleteKarmarkarKarp (model `Coupe.Ckk.run`, theorems of C13)

`tol` is the tolerance converted to the weight type; `p` the caller's array. -/

namespace Ckk
open Coupe.Ckk

/-- On `Ok` the array has one id per element. -/
theorem length_ok (p : List Nat) (ws : List Int) (tol : Int) (ids : List Nat)
    (hnn : ∀ w ∈ ws, 0 ≤ w) (h : run {} p ws tol = .ok ids) : ids.length = ws.length := by
  by_cases hne : ws = []
  · -- the empty input: `Ok` hands back the caller's array, which passed the length check
    subst hne
    unfold run at h
    split at h
    · cases h
    · next hl =>
      cases h
      exact (Classical.not_not.1 hl).symm
  · exact (ckk_sound p ws tol ids hnn hne h).1

/-- On `Ok` every id is below 2. -/
theorem ids_lt (p : List Nat) (ws : List Int) (tol : Int) (ids : List Nat)
    (hnn : ∀ w ∈ ws, 0 ≤ w) (hne : ws ≠ []) (h : run {} p ws tol = .ok ids) : ∀ i ∈ ids, i < 2 := by
  intro i hi
  have := (ckk_sound p ws tol ids hnn hne h).2.1 i hi
  omega

/-- With matching lengths the run returns `Ok` or `NotFound`: no panic site is
reached and the fuel suffices. -/
theorem total (p : List Nat) (ws : List Int) (tol : Int) (hlen : ws.length = p.length) :
    (∃ ids, run {} p ws tol = .ok ids) ∨ run {} p ws tol = .notFound := by
  cases hr : run {} p ws tol with
  | ok ids => exact .inl ⟨ids, rfl⟩
  | notFound => exact .inr rfl
  | lenMismatch => exact absurd hr (run_ne_lenMismatch_of_len {} tol hlen)
  | abort => exact absurd hr (ckk_total p ws tol)

/-- Non-vacuity: both outcomes occur. -/
example : run {} [9, 9, 9, 9, 9] [3, 3, 2, 2, 2] 0 = .ok [1, 1, 0, 0, 0] := by decide +kernel
example : run {} [9, 9, 9] [3, 3, 1] 0 = .notFound := by decide +kernel

end Ckk

/-! ## Greedy (model `Coupe.Greedy.run`, theorems of C12) -/

namespace Greedy
open Coupe.Greedy

theorem length_ok (p : List Nat) (ws : List Int) (k : Nat) (ids : List Nat)
    (h : run p ws k = .ok ids) : ids.length = p.length :=
  (Coupe.C12.greedy_ids p ws k ids h).1

/-- Every id is below the part count (for a part count of at least 1). -/
theorem ids_lt (p : List Nat) (ws : List Int) (k : Nat) (ids : List Nat) (hk : 1 ≤ k)
    (h : run p ws k = .ok ids) : ∀ i ∈ ids, i < k := by
  intro i hi
  have := (Coupe.C12.greedy_ids p ws k ids h).2 i hi
  omega

theorem total (p : List Nat) (ws : List Int) (k : Nat) (hlen : ws.length = p.length) :
    ∃ ids, run p ws k = .ok ids :=
  (Coupe.C12.greedy_total p ws k hlen).1

/-- Non-vacuity (more parts than elements, one heavy element, a zero weight). -/
example : run [9, 9, 9] [1, 100, 0] 5 = .ok [3, 4, 2] := by decide +kernel

end Greedy

/-! ## KarmarkarKarp (model `Coupe.Kk.run`, theorems of C12)

`run = runWith sortVal`; the theorems of C12 hold for every lawful order of
equal sums (`SortOk`), `kk_sort_instance` discharges it for the instance. -/

namespace Kk
open Coupe.Kk

theorem length_ok (p : List Nat) (ws : List Int) (k : Nat) (ids : List Nat)
    (h : run p ws k = .ok ids) : ids.length = p.length :=
  (Coupe.C12.kk_ids sortVal Coupe.C12.kk_sort_instance p ws k ids h).1

theorem ids_lt (p : List Nat) (ws : List Int) (k : Nat) (ids : List Nat) (hk : 1 ≤ k)
    (h : run p ws k = .ok ids) : ∀ i ∈ ids, i < k := by
  intro i hi
  have := (Coupe.C12.kk_ids sortVal Coupe.C12.kk_sort_instance p ws k ids h).2 i hi
  omega

theorem total (p : List Nat) (ws : List Int) (k : Nat) (hlen : ws.length = p.length) :
    ∃ ids, run p ws k = .ok ids :=
  Coupe.C12.kk_total sortVal Coupe.C12.kk_sort_instance p ws k hlen

/-- The same for every way `sort_unstable_by` may order equal sums. -/
theorem ids_lt_any_sort (sort : Row → Row) (hsort : SortOk sort) (p : List Nat) (ws : List Int)
    (k : Nat) (ids : List Nat) (hk : 1 ≤ k) (h : runWith sort p ws k = .ok ids) :
    ids.length = p.length ∧ ∀ i ∈ ids, i < k := by
  obtain ⟨hl, hlt⟩ := Coupe.C12.kk_ids sort hsort p ws k ids h
  exact ⟨hl, fun i hi => by have := hlt i hi; omega⟩

/-- Non-vacuity: the trivial cases of defect D5 (one element; one part) are written. -/
example : run [9] [7] 5 = .ok [0] := by decide +kernel
example : run [9, 9, 9] [4, 5, 6] 1 = .ok [0, 0, 0] := by decide +kernel
example : run [9, 9, 9, 9] [3, 5, 3, 9] 3 = .ok [1, 2, 1, 0] := by decide +kernel

end Kk

/-! ## `Grid::rcb`, 2-D and 3-D (model `Coupe.GridRcb.rcb2/rcb3`, theorems of C10)

`T` = rayon pool size (any, also 1: defect D4), `bracket` = the two `f64`
thresholds per total, `ws` covers the grid, `plen` = length of the id array. -/

namespace Grid2
open Coupe.GridRcb

theorem length_ok (T : Nat) (bracket : Int → Option (Int × Int)) (w h : Nat) (ws : Array Int)
    (plen iter : Nat) (ids : List Nat) (hr : rcb2 {} T bracket w h ws plen iter = .ok ids) :
    ids.length = plen := by
  obtain ⟨t, _, hids⟩ := rcb2_unfold _ _ _ _ _ _ _ _ _ hr
  simp [hids]

theorem ids_lt (T : Nat) (bracket : Int → Option (Int × Int)) (w h : Nat) (ws : Array Int)
    (plen iter : Nat) (ids : List Nat) (hsz : w * h ≤ ws.size)
    (hr : rcb2 {} T bracket w h ws plen iter = .ok ids) : ∀ i ∈ ids, i < 2 ^ iter :=
  grid_ids_lt T bracket w h ws plen iter ids hsz hr

/-- Returns for every pool size `T` (no abort, the median search terminates). -/
theorem total (T : Nat) (bracket : Int → Option (Int × Int)) (w h : Nat) (ws : Array Int)
    (plen iter : Nat) (hsz : w * h ≤ ws.size) (hbr : ∀ t, ∃ a b, bracket t = some (a, b)) :
    ∃ ids, rcb2 {} T bracket w h ws plen iter = .ok ids :=
  (rcb_total T bracket w h ws plen iter hsz hbr).imp fun _ h => h.1

/-- Non-vacuity: the witness of D4 (4×4, unit weights, 2 iterations, one thread). -/
example : rcb2 {} 1 (fun t => some (t / 2, t / 2)) 4 4 (Array.replicate 16 1) 16 2 =
    .ok [0, 0, 1, 1, 0, 0, 1, 1, 2, 2, 3, 3, 2, 2, 3, 3] := by decide +kernel

end Grid2

namespace Grid3
open Coupe.GridRcb

theorem length_ok (T : Nat) (bracket : Int → Option (Int × Int)) (w h d : Nat) (ws : Array Int)
    (plen iter : Nat) (ids : List Nat) (hr : rcb3 {} T bracket w h d ws plen iter = .ok ids) :
    ids.length = plen := by
  obtain ⟨t, _, hids⟩ := rcb3_unfold _ _ _ _ _ _ _ _ _ _ hr
  simp [hids]

theorem ids_lt (T : Nat) (bracket : Int → Option (Int × Int)) (w h d : Nat) (ws : Array Int)
    (plen iter : Nat) (ids : List Nat) (hsz : w * h * d ≤ ws.size)
    (hr : rcb3 {} T bracket w h d ws plen iter = .ok ids) : ∀ i ∈ ids, i < 2 ^ iter :=
  grid_ids_lt_3d T bracket w h d ws plen iter ids hsz hr

theorem total (T : Nat) (bracket : Int → Option (Int × Int)) (w h d : Nat) (ws : Array Int)
    (plen iter : Nat) (hsz : w * h * d ≤ ws.size) (hbr : ∀ t, ∃ a b, bracket t = some (a, b)) :
    ∃ ids, rcb3 {} T bracket w h d ws plen iter = .ok ids :=
  (rcb_total_3d T bracket w h d ws plen iter hsz hbr).imp fun _ h => h.1

end Grid3

/-! ## Rcb and Rib (model `Coupe.Rcb.runBB` / `runRib`, theorems of C03)

Generic in the coordinate type `α` (`f32` in the code); `laws : OrderLawsOn S`
with every input coordinate in `S` is "the coordinates are not NaN and `<` is the
IEEE order" (finite coordinates of the contract).  Any bounding box, any
tolerance test `wt`, any pivot the cut search picks. -/

namespace Rcb
open Coupe.Rcb
variable {α : Type} [Coord α]

theorem length_ok {S : α → Prop} (laws : OrderLawsOn S) (wt : Int → Int → Bool) (cfg : Cfg)
    (iter : Nat) (pts : List (List α)) (ws : List Int) (plen : Nat) (blo bhi : List α) (ids : List Nat)
    (hS : ∀ p ∈ pts, ∀ c, S (p.getD c Coord.zero))
    (h : runBB wt cfg iter pts ws plen blo bhi = .ok ids) : ids.length = pts.length := by
  obtain ⟨_, _, _, _, _, hl, _⟩ := rcb_is_bisection laws wt cfg iter pts ws plen blo bhi ids hS h
  exact hl

/-- Every id is below `2^iter_count`. -/
theorem ids_lt {S : α → Prop} (laws : OrderLawsOn S) (wt : Int → Int → Bool) (cfg : Cfg)
    (iter : Nat) (pts : List (List α)) (ws : List Int) (plen : Nat) (blo bhi : List α) (ids : List Nat)
    (hS : ∀ p ∈ pts, ∀ c, S (p.getD c Coord.zero))
    (h : runBB wt cfg iter pts ws plen blo bhi = .ok ids) : ∀ i ∈ ids, i < 2 ^ iter := by
  obtain ⟨_, _, _, _, _, _, hlt⟩ := rcb_is_bisection laws wt cfg iter pts ws plen blo bhi ids hS h
  exact hlt

/-- The full totality statement: with matching lengths the run returns ids. -/
def total_statement (α : Type) [Coord α] (S : α → Prop) : Prop :=
  ∀ (wt : Int → Int → Bool) (cfg : Cfg) (iter : Nat) (pts : List (List α)) (ws : List Int)
    (blo bhi : List α), (∀ p ∈ pts, ∀ c, S (p.getD c Coord.zero)) → ws.length = pts.length →
    ∃ ids, runBB wt cfg iter pts ws pts.length blo bhi = .ok ids

/-- What is proved of it: with matching lengths the only way not to return ids is
a cut search that exceeds its fuel – no index leaves the arrays, no length error.
(Termination of the cut search: `Coupe.Rcb.split_terminates_int` for integer
coordinates; for `f32` the fuel is C03's stated assumption.) -/
theorem total_partial {S : α → Prop} (laws : OrderLawsOn S) (wt : Int → Int → Bool) (cfg : Cfg)
    (iter : Nat) (pts : List (List α)) (ws : List Int) (blo bhi : List α)
    (hS : ∀ p ∈ pts, ∀ c, S (p.getD c Coord.zero)) (hlen : ws.length = pts.length) :
    (∃ ids, runBB wt cfg iter pts ws pts.length blo bhi = .ok ids) ∨
      runBB wt cfg iter pts ws pts.length blo bhi = .fuel := by
  cases hr : runBB wt cfg iter pts ws pts.length blo bhi with
  | ok ids => exact .inl ⟨ids, rfl⟩
  | fuel => exact .inr rfl
  | oob => exact absurd hr (rcb_no_out_of_bounds laws wt cfg iter pts ws pts.length blo bhi hS)
  | lenMismatch => exact absurd hr (runBB_ne_lenMismatch_of_len wt cfg iter blo bhi hlen rfl)

/-- **Totality on ranked coordinates** (C03's `rcb_total_ranked`): for every coordinate type
with a finite order-embedded rank and the between-ness law of the cut target
(`RankedCoord α`; `Int` proved, `f32` by IEEE-754, trusted, see `Proofs/RcbRanked.lean`), with matching lengths and fuel
at least the rank width of the point set on every axis plus two, `rcb` returns ids: no
index out of range, no cut search that outlives its fuel. -/
theorem total_ranked (R : RankedCoord α) (laws : OrderLawsOn R.S) (wt : Int → Int → Bool)
    (cfg : Cfg) (iter : Nat) (pts : List (List α)) (ws : List Int) (hdim : 0 < cfg.dim)
    (hS : ∀ p ∈ pts, ∀ c, R.S (p.getD c Coord.zero))
    (hfuel : ∀ p ∈ pts, ∀ q ∈ pts, ∀ c, c < cfg.dim →
      (R.rank (q.getD c Coord.zero) - R.rank (p.getD c Coord.zero)).toNat + 2 ≤ cfg.fuel)
    (hlen : ws.length = pts.length) :
    ∃ ids, run wt cfg iter pts ws pts.length = .ok ids := by
  refine (rcb_total_ranked R laws wt cfg iter pts ws pts.length hdim hS hfuel).resolve_left ?_
  exact runBB_ne_lenMismatch_of_len wt cfg iter _ _ hlen rfl

/-- The exact-integer instance: fuel `(largest − smallest coordinate on any axis) + 2`. -/
theorem total_int (wt : Int → Int → Bool) (cfg : Cfg) (iter : Nat) (pts : List (List Int))
    (ws : List Int) (hdim : 0 < cfg.dim)
    (hfuel : ∀ p ∈ pts, ∀ q ∈ pts, ∀ c, c < cfg.dim →
      (q.getD c 0 - p.getD c 0).toNat + 2 ≤ cfg.fuel)
    (hlen : ws.length = pts.length) :
    ∃ ids, run wt cfg iter pts ws pts.length = .ok ids :=
  total_ranked intRanked intOrderLaws wt cfg iter pts ws hdim (fun _ _ _ => trivial) hfuel hlen

/-- Non-vacuity of the fuel hypothesis (the second input below spans 12 units in x, 1 in y). -/
example : ∀ p ∈ [[0, 0], [4, 1], [8, 0], [12, 1]], ∀ q ∈ [[0, 0], [4, 1], [8, 0], [12, 1]],
    ∀ c, c < 2 → ((q : List Int).getD c 0 - (p : List Int).getD c 0).toNat + 2 ≤ 100 := by decide +kernel

/-- Non-vacuity (`α = Int`, `intOrderLaws`): more parts than points (3 coincident points,
8 parts), and one heavy element among zero weights. -/
example : run (α := Int) (fun _ _ => false) ⟨2, 100⟩ 3
    [[1, 1], [1, 1], [1, 1]] [1, 1, 1] 3 = .ok [0, 0, 0] := by decide +kernel
example : run (α := Int) (fun _ _ => false) ⟨2, 100⟩ 2
    [[0, 0], [4, 1], [8, 0], [12, 1]] [0, 1000, 0, 0] 4 = .ok [0, 2, 2, 2] := by decide +kernel

end Rcb

namespace Rib
open Coupe.Rcb
variable {α : Type} [Coord α]

/-- For EVERY frame `rotate` (the inertia computation is numerical code outside the model). -/
theorem length_ok {β : Type} {S : α → Prop} (laws : OrderLawsOn S) (rotate : β → List α)
    (wt : Int → Int → Bool) (cfg : Cfg) (iter : Nat) (pts : List β) (ws : List Int) (plen : Nat)
    (ids : List Nat) (hS : ∀ p ∈ pts, ∀ c, S ((rotate p).getD c Coord.zero))
    (h : runRib rotate wt cfg iter pts ws plen = .ok ids) : ids.length = pts.length := by
  obtain ⟨_, _, _, _, _, hl, _⟩ := rib_is_bisection laws rotate wt cfg iter pts ws plen ids hS h
  exact hl

theorem ids_lt {β : Type} {S : α → Prop} (laws : OrderLawsOn S) (rotate : β → List α)
    (wt : Int → Int → Bool) (cfg : Cfg) (iter : Nat) (pts : List β) (ws : List Int) (plen : Nat)
    (ids : List Nat) (hS : ∀ p ∈ pts, ∀ c, S ((rotate p).getD c Coord.zero))
    (h : runRib rotate wt cfg iter pts ws plen = .ok ids) : ∀ i ∈ ids, i < 2 ^ iter := by
  obtain ⟨_, _, _, _, _, _, hlt⟩ := rib_is_bisection laws rotate wt cfg iter pts ws plen ids hS h
  exact hlt

/-- Totality of Rib on ranked coordinates, for EVERY frame `rotate` whose image meets the
hypotheses (`rib` is `rcb` on the rotated points). -/
theorem total_ranked {β : Type} (R : RankedCoord α) (laws : OrderLawsOn R.S) (rotate : β → List α)
    (wt : Int → Int → Bool) (cfg : Cfg) (iter : Nat) (pts : List β) (ws : List Int) (hdim : 0 < cfg.dim)
    (hS : ∀ p ∈ pts, ∀ c, R.S ((rotate p).getD c Coord.zero))
    (hfuel : ∀ p ∈ pts, ∀ q ∈ pts, ∀ c, c < cfg.dim →
      (R.rank ((rotate q).getD c Coord.zero) - R.rank ((rotate p).getD c Coord.zero)).toNat + 2 ≤ cfg.fuel)
    (hlen : ws.length = pts.length) :
    ∃ ids, runRib rotate wt cfg iter pts ws pts.length = .ok ids := by
  have := Rcb.total_ranked R laws wt cfg iter (pts.map rotate) ws hdim (List.forall_mem_map.2 hS)
    (List.forall_mem_map.2 fun p hp => List.forall_mem_map.2 fun q hq => hfuel p hp q hq)
    (by rw [hlen, List.length_map])
  rwa [List.length_map] at this

/-- Non-vacuity: Rib on integer points with the frame "swap the axes". -/
example : runRib (α := Int) (fun p : Int × Int => [p.2, p.1]) (fun _ _ => false) ⟨2, 100⟩ 1
    [(0, 0), (1, 4), (0, 8), (1, 12)] [1, 1, 1, 1] 4 = .ok [0, 1, 1, 1] := by decide +kernel

end Rib

/-! ## HilbertCurve, 2-D and 3-D (model `Coupe.Sfc.Hilbert`, theorems of C09)

Both dimensions run the same `partition_indexed`; the dimension only decides
which encoder produced the curve indices `idxs` (C08), and the theorems hold for
EVERY index list.  `run` is `partition_indexed` after the indices are known:
`weighted_quantiles` (settle loop with fuel, then the final sort) and the
binary-search lookup; `none` = the settle loop ran out of fuel. -/

namespace Hilbert
open Coupe.Sfc

/-- `hilbert_curve.rs: partition_indexed` on the curve indices `idxs` (composition of the
two functions of C09's model, nothing new). -/
def run (fuel : Nat) (idxs : List Nat) (ws : List Float) (parts : Nat) : Option (List Nat) :=
  (Sfc.Hilbert.quantiles fuel idxs ws parts).map (Sfc.Hilbert.assign idxs)

/-- The same thing in the form C09's driver evaluates it. -/
theorem run_eq (fuel : Nat) (idxs : List Nat) (ws : List Float) (parts : Nat) :
    run fuel idxs ws parts =
      (Sfc.Hilbert.quantilesRaw fuel idxs ws parts).map (Sfc.Hilbert.partitionIndexed idxs) := by
  simp only [run, Sfc.Hilbert.quantiles, Option.map_map]
  rfl

theorem length_ok (fuel : Nat) (idxs : List Nat) (ws : List Float) (parts : Nat) (ids : List Nat)
    (h : run fuel idxs ws parts = some ids) : ids.length = idxs.length := by
  simp only [run, Option.map_eq_some_iff] at h
  obtain ⟨pos, _, rfl⟩ := h
  simp [Sfc.Hilbert.assign]

/-- Every id is below `part_count`, whatever positions the settle loop found. -/
theorem ids_lt (fuel : Nat) (idxs : List Nat) (ws : List Float) (parts : Nat) (hn : 1 ≤ parts)
    (ids : List Nat) (h : run fuel idxs ws parts = some ids) : ∀ i ∈ ids, i < parts := by
  simp only [run, Option.map_eq_some_iff] at h
  obtain ⟨pos, hpos, rfl⟩ := h
  exact (quantiles_result_sorted fuel idxs ws parts hn pos hpos).2.2.2

/-- The full totality statement: on a non-empty input with at least one part some fuel
suffices (`HilbertCurve::partition` returns early on the empty input). -/
def total_statement : Prop :=
  ∀ (idxs : List Nat) (ws : List Float) (parts : Nat), idxs ≠ [] → 1 ≤ parts →
    ∃ fuel ids, run fuel idxs ws parts = some ids

/-- It is exactly the termination of the settle loop, which C09 does not claim (no
decreasing measure is known; watchdog and fuel were never hit in the runs). -/
theorem total_statement_iff : total_statement ↔ quantiles_terminates_statement := by
  constructor
  · intro h idxs ws n hne hn
    obtain ⟨fuel, ids, hr⟩ := h idxs ws n hne hn
    refine ⟨fuel, ?_⟩
    simp only [run, Option.map_eq_some_iff] at hr
    obtain ⟨pos, hpos, _⟩ := hr
    simp [hpos]
  · intro h idxs ws n hne hn
    obtain ⟨fuel, hf⟩ := h idxs ws n hne hn
    obtain ⟨pos, hpos⟩ := Option.isSome_iff_exists.mp hf
    exact ⟨fuel, Sfc.Hilbert.assign idxs pos, by simp [run, hpos]⟩

/-- What is proved of it: the settle loop is the ONLY way not to return – once it ends,
the sort and the lookups reach no panic site (the binary-search index never exceeds the
length) and ids are returned. -/
theorem total_partial (fuel : Nat) (idxs : List Nat) (ws : List Float) (parts : Nat)
    (h : (Sfc.Hilbert.quantilesRaw fuel idxs ws parts).isSome) :
    ∃ ids, run fuel idxs ws parts = some ids := by
  obtain ⟨raw, hraw⟩ := Option.isSome_iff_exists.mp h
  exact ⟨Sfc.Hilbert.partitionIndexed idxs raw, by rw [run_eq, hraw]; rfl⟩

end Hilbert

/-! ## ZCurve, 2-D and 3-D (model `Coupe.Sfc.ZCurve.partition`, theorems of C09)

`sortBy` stands for `par_sort_unstable_by_key` (any sort meeting `SortSpec`), `region` for
the floating-point quadrant test (any function with values below `2^D`), `p0` is the
caller's array.  Contract: `part_count ≥ 1`, `order ≤ max_order`. -/

namespace ZCurve
open Coupe.Sfc Coupe.Sfc.ZCurve

theorem total (dim order k n : Nat) (hk : 1 ≤ k) (hord : order ≤ maxOrder dim)
    (sortBy : (Nat → Nat) → List Nat → List Nat) (hs : SortSpec sortBy)
    (region : List Nat → Nat → Nat) (hreg : ∀ path i, region path i < 2 ^ dim)
    (p0 : List Nat) (hp0 : p0.length = n) :
    ∃ ids, partition dim order k sortBy region n p0 = .ok ids := by
  obtain ⟨_, ids, _, _, _, hr, _⟩ := zcurve_parts_runs dim order k n hk hord sortBy hs region hreg p0 hp0
  exact ⟨ids, hr⟩

theorem length_ok (dim order k n : Nat) (hk : 1 ≤ k) (hord : order ≤ maxOrder dim)
    (sortBy : (Nat → Nat) → List Nat → List Nat) (hs : SortSpec sortBy)
    (region : List Nat → Nat → Nat) (hreg : ∀ path i, region path i < 2 ^ dim)
    (p0 : List Nat) (hp0 : p0.length = n) (ids : List Nat)
    (h : partition dim order k sortBy region n p0 = .ok ids) : ids.length = n := by
  obtain ⟨_, ids', _, _, _, hr, hl, _⟩ :=
    zcurve_parts_runs dim order k n hk hord sortBy hs region hreg p0 hp0
  cases h.symm.trans hr
  exact hl

/-- Every id is below `part_count` – also with more parts than points (defect D3). -/
theorem ids_lt (dim order k n : Nat) (hk : 1 ≤ k) (hord : order ≤ maxOrder dim)
    (sortBy : (Nat → Nat) → List Nat → List Nat) (hs : SortSpec sortBy)
    (region : List Nat → Nat → Nat) (hreg : ∀ path i, region path i < 2 ^ dim)
    (p0 : List Nat) (hp0 : p0.length = n) (ids : List Nat)
    (h : partition dim order k sortBy region n p0 = .ok ids) : ∀ i ∈ ids, i < k := by
  obtain ⟨_, ids', _, _, _, hr, hl, _, _, hlt⟩ :=
    zcurve_parts_runs dim order k n hk hord sortBy hs region hreg p0 hp0
  cases h.symm.trans hr
  rw [List.forall_mem_iff_forall_getElem]
  intro j hj
  simpa [hj] using hlt j (hl ▸ hj)

/-- Non-vacuity: D3's shape (3 points, 5 parts) with the driver's sort. -/
example : SortSpec sortByKey := sortByKey_spec
example : partition 2 1 5 sortByKey (fun _ i => i % 4) 3 [9, 9, 9] = .ok [0, 1, 2] := by
  decide +kernel

end ZCurve

/-! ## MultiJagged (model `Coupe.MultiJagged.run` + `assign`, theorems of C11)

Parameters and the owner's hypotheses on them: `root` (`f32` `powf(..).ceil()`, `RootOk`),
`sort` (`axis_sort`, `SortOk`), `chunk` (block lengths of the parallel scan, `ChunkOk`);
`ren` is the renaming of the leaf numbers the `fetch_add` order induces (any map of
`[0, part_count)` into itself).  Contract: `part_count ≥ 1`, `max_iter ≥ 1`, one weight
per point.  Weights exact (`Nat`). -/

namespace MultiJagged
open Coupe.MultiJagged

/-- `MultiJagged::partition`: the ids written into the caller's array `p0`; `none` = abort. -/
def ids (root : Nat → Nat → Nat) (sort : (Nat → Int) → List Nat → List Nat) (chunk : Nat → List Nat)
    (dim : Nat) (key : Nat → Nat → Int) (ws : List Nat) (n numParts maxIter : Nat)
    (ren : Nat → Nat) (p0 : List Nat) : Option (List Nat) :=
  (run {} root sort chunk dim key ws n numParts maxIter).map (fun h => assign ren h.leaves p0)

section
variable {root : Nat → Nat → Nat} {sort : (Nat → Int) → List Nat → List Nat} {chunk : Nat → List Nat}

/-- No abort: no remainder by zero or underflow in the scheme, no `unwrap` of an exhausted
scan (K4), no `split_at_mut_many` panic, `next.unwrap()` always `Some`. -/
theorem total (hr : RootOk root) (hs : SortOk sort) (hc : ChunkOk chunk)
    (dim : Nat) (key : Nat → Nat → Int) (ws : List Nat) (n numParts maxIter : Nat)
    (hn : 1 ≤ numParts) (hm : 1 ≤ maxIter) (hws : n ≤ ws.length) (ren : Nat → Nat) (p0 : List Nat) :
    ∃ out, ids root sort chunk dim key ws n numParts maxIter ren p0 = some out := by
  obtain ⟨h, hrun, _⟩ := mj_ids hr hs hc dim key ws n numParts maxIter hn hm hws
  exact ⟨assign ren h.leaves p0, by simp [ids, hrun]⟩

theorem length_ok (hr : RootOk root) (hs : SortOk sort) (hc : ChunkOk chunk)
    (dim : Nat) (key : Nat → Nat → Int) (ws : List Nat) (n numParts maxIter : Nat)
    (hn : 1 ≤ numParts) (hm : 1 ≤ maxIter) (hws : n ≤ ws.length) (ren : Nat → Nat) (p0 : List Nat)
    (hp0 : p0.length = n) (out : List Nat)
    (h : ids root sort chunk dim key ws n numParts maxIter ren p0 = some out) : out.length = n := by
  obtain ⟨hh, hrun, _, _, _, hall⟩ := mj_ids hr hs hc dim key ws n numParts maxIter hn hm hws
  simp only [ids, hrun, Option.map_some, Option.some.injEq] at h
  subst h
  exact (hall ren p0 hp0).1

/-- Every element is written (its cell holds the id of the leaf containing it) and every
id is below `part_count`. -/
theorem ids_lt (hr : RootOk root) (hs : SortOk sort) (hc : ChunkOk chunk)
    (dim : Nat) (key : Nat → Nat → Int) (ws : List Nat) (n numParts maxIter : Nat)
    (hn : 1 ≤ numParts) (hm : 1 ≤ maxIter) (hws : n ≤ ws.length) (ren : Nat → Nat)
    (hren : ∀ k, k < numParts → ren k < numParts) (p0 : List Nat)
    (hp0 : p0.length = n) (out : List Nat)
    (h : ids root sort chunk dim key ws n numParts maxIter ren p0 = some out) :
    ∀ i ∈ out, i < numParts := by
  obtain ⟨hh, hrun, hleaves, _, _, hall⟩ := mj_ids hr hs hc dim key ws n numParts maxIter hn hm hws
  simp only [ids, hrun, Option.map_some, Option.some.injEq] at h
  subst h
  obtain ⟨hl, hw⟩ := hall ren p0 hp0
  rw [List.forall_mem_iff_forall_getElem]
  intro j hj
  obtain ⟨k, hk, _, hget⟩ := hw j (hl ▸ hj)
  rw [(List.getElem_eq_iff hj).2 hget]
  exact hren k (hleaves ▸ hk)

end

/-- Non-vacuity: the K4 input (heavy first element, 4 parts, 2 iterations) with the driver's
instances; the first two leaves are empty. -/
example : ids iroot isort (fun n => [n]) 2 k4key [10, 1, 1, 1] 4 4 2 id [9, 9, 9, 9]
    = some [3, 2, 2, 2] := by decide +kernel

end MultiJagged

/-! ## Random (model `Coupe.Random.run`; the generator is a parameter)

`Lawful g` is the trusted contract of `rand`: `gen_range(0..k)` returns a value
below `k` whenever `k > 0`. -/

namespace Random
open Coupe.Random

theorem length_ok {σ : Type} (g : Gen σ) (k : Nat) (p : List Nat) (s : σ) (ids : List Nat)
    (h : run g k p s = some ids) : ids.length = p.length := by
  unfold run at h
  induction p generalizing s ids with
  | nil =>
    cases h
    rfl
  | cons _ p ih =>
    simp only [fill] at h
    split at h
    · cases h
    · next v s' _ =>
      split at h
      · cases h
      · next rest hrest =>
        cases h
        rw [List.length_cons, List.length_cons, ih s' rest hrest]

/-- Every id is below the part count, whatever lawful generator and state. -/
theorem ids_lt {σ : Type} (g : Gen σ) (hg : Lawful g) (k : Nat) (hk : 1 ≤ k) (p : List Nat) (s : σ)
    (ids : List Nat) (h : run g k p s = some ids) : ∀ i ∈ ids, i < k := by
  obtain ⟨ids', h', hlt⟩ := fill_lawful g hg k hk p s
  cases h.symm.trans h'
  exact hlt

/-- With a part count of at least 1 the loop returns (no `gen_range` panic). -/
theorem total {σ : Type} (g : Gen σ) (hg : Lawful g) (k : Nat) (hk : 1 ≤ k) :
    ∀ (p : List Nat) (s : σ), ∃ ids, run g k p s = some ids :=
  fun p s => (fill_lawful g hg k hk p s).imp fun _ h => h.1

/-- The driver's stand-in generator is lawful (non-vacuity of `Lawful`). -/
theorem lcg_lawful : Lawful lcg := by
  intro k s hk
  exact ⟨_, _, if_neg (Nat.ne_of_gt hk), Nat.mod_lt _ hk⟩

example : run lcg 3 [9, 9, 9, 9] 1 = some [2, 0, 0, 0] := by decide +kernel

end Random

end Coupe.C01

#print axioms Coupe.C01.Ckk.length_ok
#print axioms Coupe.C01.Ckk.ids_lt
#print axioms Coupe.C01.Ckk.total
#print axioms Coupe.C01.Greedy.length_ok
#print axioms Coupe.C01.Greedy.ids_lt
#print axioms Coupe.C01.Greedy.total
#print axioms Coupe.C01.Kk.length_ok
#print axioms Coupe.C01.Kk.ids_lt
#print axioms Coupe.C01.Kk.total
#print axioms Coupe.C01.Kk.ids_lt_any_sort
#print axioms Coupe.C01.Grid2.length_ok
#print axioms Coupe.C01.Grid2.ids_lt
#print axioms Coupe.C01.Grid2.total
#print axioms Coupe.C01.Grid3.length_ok
#print axioms Coupe.C01.Grid3.ids_lt
#print axioms Coupe.C01.Grid3.total
#print axioms Coupe.C01.Rcb.length_ok
#print axioms Coupe.C01.Rcb.ids_lt
#print axioms Coupe.C01.Rcb.total_partial
#print axioms Coupe.C01.Rcb.total_ranked
#print axioms Coupe.C01.Rcb.total_int
#print axioms Coupe.C01.Rib.length_ok
#print axioms Coupe.C01.Rib.ids_lt
#print axioms Coupe.C01.Rib.total_ranked
#print axioms Coupe.C01.Hilbert.run_eq
#print axioms Coupe.C01.Hilbert.length_ok
#print axioms Coupe.C01.Hilbert.ids_lt
#print axioms Coupe.C01.Hilbert.total_statement_iff
#print axioms Coupe.C01.Hilbert.total_partial
#print axioms Coupe.C01.ZCurve.total
#print axioms Coupe.C01.ZCurve.length_ok
#print axioms Coupe.C01.ZCurve.ids_lt
#print axioms Coupe.C01.MultiJagged.total
#print axioms Coupe.C01.MultiJagged.length_ok
#print axioms Coupe.C01.MultiJagged.ids_lt
#print axioms Coupe.C01.Random.length_ok
#print axioms Coupe.C01.Random.ids_lt
#print axioms Coupe.C01.Random.total
#print axioms Coupe.C01.Random.lcg_lawful
