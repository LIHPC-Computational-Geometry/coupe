import CoupeModel.Gen.IntFns
import CoupeModel.Model.Hilbert
import CoupeModel.Proofs.GenTie2
import CoupeModel.Props.C08

/-!
# GenTie2 — the Hilbert encoders of C08 are the code regenerated from the source

`tools/extract_intfns.py` (typed bit-level subset) regenerates on every run, from
`src/algorithms/hilbert_curve.rs`, into `Gen/IntFns.lean`:

* `encode_2d_slow_step`  – one turn of `while i > 0 { … }` of `encode_2d_slow`;
* `encode_2d_lut_entry`, `encode_2d_LUT_LEN` – the value `lut[i]` of one turn of the initialiser of
  `encode_2d`'s `const LUT`, and the declared length of that table;
* `encode_2d_zorder`, `encode_2d_init`, `encode_2d_step`, `encode_2d_final` – `let zorder = …`, the
  initial loop state, one turn of `while shift > 0 { … }`, the code after the loop of `encode_2d`;
* `encode_3d_zorder`, `encode_3d_step` – `let zorder = …` and one turn of
  `for i in (0..order).rev() { … }` of `encode_3d`,

with Rust's width-dependent operations explicit (`<<` on `u64` drops the bits shifted out, shifts by
a run-time amount panic outside `0..64`, `as u16` truncates, `!` complements within the width, unsigned
`-` panics on underflow, every table access is bounds-checked against the DECLARED dimension).  The
loop headers, signatures and `debug_assert!`s are locked as text by the translator.

`Proofs/GenTie2.lean` puts the loops back around these bodies (`genSlow2`, `genLut`, `genEncode2`,
`genEncode3`).  The theorems below state, for all inputs in range: each generated turn IS one unfolding
of the hand-written code mirror of `Model/Hilbert.lean`; no generated check fails (no panic); the
assembled encoders equal `slow2U`, `lut`, `fast2`, `enc3U`; hence (through `Props/C08.lean`) the
bijection and continuity theorems of C08 hold of the code regenerated from the source.  A change of a
shift, mask, cast, table index or table dimension in /repo changes `Gen/IntFns.lean` and breaks these
proofs (or the translator refuses the new shape).
-/

namespace Coupe.GenTie2
open Coupe.Gen.IntFns Coupe.Gen.HilbertTables Coupe.Hilbert

/-! ## `encode_2d_slow` -/

/-- One generated turn of `while i > 0` (with `i = j + 1`, state `config < 4`, `j < 32` so that the
shift `2·j` stays below 64) does not panic and is one unfolding of the hand model's `slow2Loop`. -/
theorem encode_2d_slow_step_tie (z j h c : Nat) (hj : j < 32) (hc : c < 4) :
    (encode_2d_slow_step base2 conf2 z (j + 1) h c).map (fun s => slow2Loop z s.1 s.2.1 s.2.2)
      = some (slow2Loop z (j + 1) h c) := by
  rw [slow_step_eq z j h c hj hc]; rfl

/-- `encode_2d_slow` assembled from the generated body = the hand model `slow2U`
(orders ≤ 32, the four states). -/
theorem encode_2d_slow_tie (z order c : Nat) (ho : order ≤ MAX_ORDER_2D) (hc : c < 4) :
    genSlow2 z order c = some (slow2U z order c) :=
  genSlow2_eq (show order ≤ 32 from ho) hc z

example : genSlow2 0b100111 3 0 = some (slow2U 0b100111 3 0) ∧ slow2U 0b100111 3 0 = (52, 2) := by decide +kernel

/-! ## The lookup table of `encode_2d` -/

/-- Every entry of `const LUT` computed by the generated initialiser body (calling the assembled
`encode_2d_slow`) is the hand model's `lut i`. -/
theorem encode_2d_lut_tie (i : Nat) (hi : i < encode_2d_LUT_LEN) : genLut i = lut i :=
  genLut_eq i hi

/-- The declared length of the table is the constant the model and C08 use, and every entry is a
valid index of the same table again (so `LUT[(config & !0xfff) | …]` never goes out of bounds). -/
theorem encode_2d_lut_closed :
    encode_2d_LUT_LEN = LUT2_SIZE ∧ ∀ i, i < encode_2d_LUT_LEN → genLut i < encode_2d_LUT_LEN := by
  refine ⟨rfl, fun i hi => ?_⟩
  rw [genLut_eq i hi]; exact lut_lt i hi

example : genLut 0x1abc = lut 0x1abc ∧ lut 0x1abc = 1384 := by decide +kernel

/-! ## `encode_2d` -/

/-- `let zorder = …` and the initial loop state, as generated, are the hand model's. -/
theorem encode_2d_frame_tie (x y order : Nat) (ho : order ≤ MAX_ORDER_2D) :
    encode_2d_zorder pdepFallback x y = zorder2 x y ∧
    encode_2d_init order = (0, 0, 2 * (order : Int) - LUT2_BITS) := by
  have h : toI64 order = (order : Int) := by
    have ho : order ≤ 32 := ho
    simp only [toI64]; omega
  exact ⟨rfl, by simp only [encode_2d_init, h]; rfl⟩

/-- One generated turn of `while shift > 0` (with `0 < shift < 64` and `config` a table entry)
does not panic and is one unfolding of the hand model's `fast2Loop`. -/
theorem encode_2d_step_tie (z c h fuel : Nat) (s : Int) (hs : 0 < s) (hs' : s < 64)
    (hc : c < encode_2d_LUT_LEN) :
    (encode_2d_step genLut z c h s).map (fun t => fast2Loop z fuel t.2.2 t.1 t.2.1)
      = some (fast2Loop z (fuel + 1) s c h) := by
  rw [step2_eq z c h s hs hs' hc, fast2Loop, if_pos hs]; rfl

/-- The generated code after the loop (`-12 ≤ shift ≤ 0`, `config` a table entry) does not panic
and is the final expression of the hand model's `fast2Z`. -/
theorem encode_2d_final_tie (z c h : Nat) (s : Int) (h1 : -12 ≤ s) (h2 : s ≤ 0) (hc : c < encode_2d_LUT_LEN) :
    encode_2d_final genLut z c h s
      = some (((h <<< ((LUT2_BITS : Int) + s).toNat) % W64) |||
          ((lut ((c &&& (65535 - LUT2_MASK)) ||| (((z <<< (-s).toNat) % W64) &&& LUT2_MASK)) &&& LUT2_MASK)
            >>> (-s).toNat)) := by
  have e1 : Int.toNat ((-s) % 18446744073709551616) = (-s).toNat := by omega
  have hw : (z <<< (-s).toNat) % 18446744073709551616 &&& 4095 < 4096 := and_lt _ 4095
  have hidx : (c &&& 61440) ||| ((z <<< (-s).toNat) % 18446744073709551616 &&& 4095) < 16384 := idx_lt hc hw
  have hm := Nat.mod_eq_of_lt (Nat.lt_trans hw (by decide : 4096 < 65536))
  simp only [encode_2d_final, e1, cshl_of_lt z (by omega : (-s).toNat < 64), Nat.reducePow, Nat.reduceSub,
    hm, GenTie.cidx_of_lt hidx, genLut_eq _ hidx,
    cshlI_of h (by omega : 0 ≤ 12 + s) (by omega : 12 + s < (64 : Nat)),
    cshrI_of _ (by omega : 0 ≤ -s) (by omega : -s < (64 : Nat)), Option.bind_eq_bind, Option.bind_some,
    Option.pure_def]
  rfl

/-- `encode_2d` assembled from the generated pieces (the loop takes at most `order` turns and no
check fails) = the hand model `fast2`, at every accepted order, on ALL `x`, `y` (both are `none`
when a `debug_assert!` fails). -/
theorem encode_2d_tie (x y order : Nat) (ho : order ≤ MAX_ORDER_2D) :
    genEncode2 x y order = fast2 x y order := by
  have ho' : order ≤ 32 := ho
  unfold genEncode2 fast2
  by_cases hg : order < 64 ∧ x < 2 ^ order ∧ y < 2 ^ order
  · rw [if_pos hg, if_pos hg]
    obtain ⟨r, _, cfg, hl, hloop, _, _, hr⟩ := fast2Loop_spec (zorder2 x y) ho'
    have hex : (fast2Loop (zorder2 x y) order (2 * (order : Int) - LUT2_BITS) 0 0).1 ≤ 0 := by
      rw [hloop]; simp only; omega
    have hlo : -12 ≤ (fast2Loop (zorder2 x y) order (2 * (order : Int) - LUT2_BITS) 0 0).1 := by
      rw [hloop]; simp only; omega
    obtain ⟨hl1, hl2⟩ := loop2_eq (zorder2 x y) order (2 * (order : Int) - LUT2_BITS) 0 0 (by decide)
      (by simp only [LUT2_BITS]; omega) hex
    simp only [zorder2_eq, (encode_2d_frame_tie x y order ho).2]
    rw [hl1]
    simp only [Option.bind_some]
    rw [encode_2d_final_tie _ _ _ _ hlo hex hl2]
    rfl
  · rw [if_neg hg, if_neg hg]

example : genEncode2 3 1 2 = some 12 ∧ genEncode2 4 1 2 = none ∧
    genEncode2 (2 ^ 32 - 1) 12345 32 = some 18446744073625664190 := by decide +kernel

/-- C08's 2-D bijection, stated of the regenerated code: at every accepted order `k`, `encode_2d`
maps the `2^k × 2^k` grid into `[0, 4^k)` with the explicit inverse `dec2 0 k`, onto. -/
theorem encode_2d_gen_bij (k : Nat) (hk : k ≤ MAX_ORDER_2D) :
    (∀ x y, x < 2 ^ k → y < 2 ^ k →
      ∃ h, genEncode2 x y k = some h ∧ h < 4 ^ k ∧ dec2 0 k h = (x, y)) ∧
    (∀ h, h < 4 ^ k → genEncode2 (dec2 0 k h).1 (dec2 0 k h).2 k = some h) := by
  have hb := enc2_bij 0 k (by decide)
  constructor
  · intro x y hx hy
    refine ⟨enc2 0 k x y, ?_, (hb.1 x y hx hy).1, (hb.1 x y hx hy).2⟩
    rw [encode_2d_tie x y k hk]; exact (fast2_eq_slow2 x y k hk hx hy).2
  · intro h hh
    obtain ⟨h1, h2, h3⟩ := hb.2 h hh
    rw [encode_2d_tie _ _ k hk, (fast2_eq_slow2 _ _ k hk h1 h2).2, h3]

/-- C08's 2-D continuity, stated of the regenerated code: cells whose indices are consecutive
share an edge. -/
theorem encode_2d_gen_continuous (k x y x' y' h : Nat) (hk : k ≤ MAX_ORDER_2D)
    (hx : x < 2 ^ k) (hy : y < 2 ^ k) (hx' : x' < 2 ^ k) (hy' : y' < 2 ^ k)
    (h1 : genEncode2 x y k = some h) (h2 : genEncode2 x' y' k = some (h + 1)) :
    dist1 x x' + dist1 y y' = 1 := by
  rw [encode_2d_tie x y k hk, (fast2_eq_slow2 x y k hk hx hy).2] at h1
  rw [encode_2d_tie x' y' k hk, (fast2_eq_slow2 x' y' k hk hx' hy').2] at h2
  simp only [Option.some.injEq] at h1 h2
  exact enc2_continuous 0 k x y x' y' (by decide) hx hy hx' hy' (by omega)

/-! ## `encode_3d` -/

/-- `let zorder = …` as generated is the hand model's. -/
theorem encode_3d_frame_tie (x y z : Nat) : encode_3d_zorder pdepFallback x y z = zorder3 x y z := rfl

/-- One generated turn of `for i in (0..order).rev()` (state `config = 8·s`, `s < 12`, `i ≤ 20` so that
the shift `3·i` stays below 64) does not panic and is one unfolding of the hand model's `enc3Loop`;
the new `config` is again `8·s'` with `s' < 12`. -/
theorem encode_3d_step_tie (z i s h : Nat) (hi : i ≤ 20) (hs : s < 12) :
    (encode_3d_step lut3 z i (8 * s) h).map (fun t => enc3Loop z i t.1 t.2)
      = some (enc3Loop z (i + 1) (8 * s) h) ∧
    ∃ s', s' < 12 ∧ (encode_3d_step lut3 z i (8 * s) h).map (fun t => t.1) = some (8 * s') := by
  have hq : (z >>> (3 * i)) &&& 7 < 8 := and_lt _ 7
  have hv := Nat.lt_trans (lut3_lt hs hq) (by decide : 96 < W64)
  rw [step3_eq z i s h hi hs]
  refine ⟨by rw [enc3Loop]; rfl, conf3 s ((z >>> (3 * i)) &&& 7), conf3_lt hs hq, ?_⟩
  simp only [Option.map_some, lut3]
  rw [or_oct hq, clear7 hv]; rfl

/-- `encode_3d` assembled from the generated pieces = the hand model `enc3U`, at every accepted
order, on ALL `x`, `y`, `z`. -/
theorem encode_3d_tie (x y z order : Nat) (ho : order ≤ MAX_ORDER_3D) :
    genEncode3 x y z order = enc3U x y z order := by
  unfold genEncode3 enc3U
  by_cases hg : order < 64 ∧ x < 2 ^ order ∧ y < 2 ^ order ∧ z < 2 ^ order
  · rw [if_pos hg, if_pos hg, encode_3d_frame_tie]
    exact loop3_eq (zorder3 x y z) order 0 0 ho (by decide)
  · rw [if_neg hg, if_neg hg]

example : genEncode3 1 2 3 2 = enc3U 1 2 3 2 ∧ genEncode3 1 2 3 2 = some 18 ∧ genEncode3 4 0 0 2 = none := by
  decide +kernel

/-- C08's 3-D bijection, stated of the regenerated code. -/
theorem encode_3d_gen_bij (k : Nat) (hk : k ≤ MAX_ORDER_3D) :
    (∀ x y z, x < 2 ^ k → y < 2 ^ k → z < 2 ^ k →
      ∃ h, genEncode3 x y z k = some h ∧ h < 8 ^ k ∧ dec3 0 k h = (x, y, z)) ∧
    (∀ h, h < 8 ^ k →
      genEncode3 (dec3 0 k h).1 (dec3 0 k h).2.1 (dec3 0 k h).2.2 k = some h) := by
  have hb := enc3_bij 0 k (by decide)
  constructor
  · intro x y z hx hy hz
    refine ⟨enc3 0 k x y z, ?_, (hb.1 x y z hx hy hz).1, (hb.1 x y z hx hy hz).2⟩
    rw [encode_3d_tie x y z k hk]; exact enc3U_eq_enc3 x y z k hk hx hy hz
  · intro h hh
    obtain ⟨h1, h2, h3, h4⟩ := hb.2 h hh
    rw [encode_3d_tie _ _ _ k hk, enc3U_eq_enc3 _ _ _ k hk h1 h2 h3, h4]

/-- C08's 3-D continuity, stated of the regenerated code: cells whose indices are consecutive
share a face. -/
theorem encode_3d_gen_continuous (k x y z x' y' z' h : Nat) (hk : k ≤ MAX_ORDER_3D)
    (hx : x < 2 ^ k) (hy : y < 2 ^ k) (hz : z < 2 ^ k)
    (hx' : x' < 2 ^ k) (hy' : y' < 2 ^ k) (hz' : z' < 2 ^ k)
    (h1 : genEncode3 x y z k = some h) (h2 : genEncode3 x' y' z' k = some (h + 1)) :
    dist1 x x' + dist1 y y' + dist1 z z' = 1 := by
  rw [encode_3d_tie x y z k hk, enc3U_eq_enc3 x y z k hk hx hy hz] at h1
  rw [encode_3d_tie x' y' z' k hk, enc3U_eq_enc3 x' y' z' k hk hx' hy' hz'] at h2
  simp only [Option.some.injEq] at h1 h2
  exact enc3_continuous_cells 0 k x y z x' y' z' (by decide) hx hy hz hx' hy' hz' (by omega)

end Coupe.GenTie2

#print axioms Coupe.GenTie2.encode_2d_slow_step_tie
#print axioms Coupe.GenTie2.encode_2d_slow_tie
#print axioms Coupe.GenTie2.encode_2d_lut_tie
#print axioms Coupe.GenTie2.encode_2d_lut_closed
#print axioms Coupe.GenTie2.encode_2d_frame_tie
#print axioms Coupe.GenTie2.encode_2d_step_tie
#print axioms Coupe.GenTie2.encode_2d_final_tie
#print axioms Coupe.GenTie2.encode_2d_tie
#print axioms Coupe.GenTie2.encode_2d_gen_bij
#print axioms Coupe.GenTie2.encode_2d_gen_continuous
#print axioms Coupe.GenTie2.encode_3d_frame_tie
#print axioms Coupe.GenTie2.encode_3d_step_tie
#print axioms Coupe.GenTie2.encode_3d_tie
#print axioms Coupe.GenTie2.encode_3d_gen_bij
#print axioms Coupe.GenTie2.encode_3d_gen_continuous
