import CoupeModel.Model.Basic
import CoupeModel.Model.Ckk
import CoupeModel.Proofs.Ckk

/-!
# C13 — CompleteKarmarkarKarp is sound and complete for its tolerance

`tol` is the tolerance already converted to the weight type, i.e. the value
`T::from_f64(sum.to_f64() * tolerance)` the Rust code compares against.
-/

namespace Coupe.Ckk

/-- Soundness: `Ok` only after writing a two-way partition whose load
difference is at most the (converted) tolerance. -/
theorem ckk_sound (p : List Nat) (ws : List Int) (tol : Int) (ids : List Nat)
    (hnn : ∀ w ∈ ws, 0 ≤ w) (hne : ws ≠ [])
    (h : run {} p ws tol = .ok ids) :
    ids.length = ws.length ∧ (∀ i ∈ ids, i ≤ 1) ∧
      (load ws ids 0 - load ws ids 1).natAbs ≤ tol := by
  have hlen : ws.length = p.length := len_of_run (by rw [h]; exact Outcome.noConfusion)
  rw [run_eq_of_len hlen hne] at h
  split at h
  · cases h
  · cases h
  · next q hrec =>
    cases h
    obtain ⟨q', hun, hl, hasg, hlo, hhi⟩ :=
      rec_sound {} rfl _ p _ tol [] ids (sorted_sortDesc _) (init_nonneg ws hnn) (init_nodup ws)
        (fun x hx => hlen ▸ init_id_lt ws x hx) hrec
    cases hun
    have hl' : ids.length = ws.length := hl.trans hlen.symm
    have h01 := init_asg_le_one ws ids hl' hasg
    rw [ssum_sortDesc, ssum_sg_zipIdx ws ids hl' h01] at hlo hhi
    exact ⟨hl', h01, by omega⟩

/-- Completeness: `NotFound` only if no two-way partition meets the bound. -/
theorem ckk_complete (p : List Nat) (ws : List Int) (tol : Int)
    (hnn : ∀ w ∈ ws, 0 ≤ w)
    (h : run {} p ws tol = .notFound) :
    ∀ ids : List Nat, ids.length = ws.length → (∀ i ∈ ids, i ≤ 1) →
      tol < (load ws ids 0 - load ws ids 1).natAbs := by
  have hlen : ws.length = p.length := len_of_run (by rw [h]; exact Outcome.noConfusion)
  have hne : ws ≠ [] := by
    intro he
    subst he
    simp [run, ← hlen] at h
  rw [run_eq_of_len hlen hne] at h
  intro ids hl h01
  split at h
  · cases h
  · next hrec =>
    have := rec_complete _ _ _ _ _ _ hrec (sg ids) (fun i => sgn_cases _)
    rwa [ssum_sortDesc, ssum_sg_zipIdx ws ids hl h01] at this
  · cases h

/-- Totality: with matching lengths the model never aborts – no panic site is
reached (`unwrap` on `pop`, slice indexing and `1 - partition[a]` in
`ckk_bipart_build`) and `fuel = ws.length` suffices (termination). -/
theorem ckk_total (p : List Nat) (ws : List Int) (tol : Int) :
    run {} p ws tol ≠ .abort := by
  by_cases hlen : ws.length = p.length
  · by_cases hne : ws = []
    · subst hne
      rw [run, if_neg (not_not_intro hlen), if_pos List.isEmpty_nil]
      exact Outcome.noConfusion
    · rw [run_eq_of_len hlen hne]
      split
      · next hnone => exact absurd hnone (run_rec_ne_none {} p ws tol hlen hne)
      · exact Outcome.noConfusion
      · exact Outcome.noConfusion
  · rw [run, if_pos hlen]
    exact Outcome.noConfusion

/-- A length mismatch is reported before anything is written. -/
theorem ckk_len_mismatch (p : List Nat) (ws : List Int) (tol : Int)
    (h : ws.length ≠ p.length) : run {} p ws tol = .lenMismatch := by
  simp [run, h]

/-- Regression witness of defect D1 (pinned upstream code recorded
`separate: true` in the *sum* branch): on `[3,3,2,2,2]` with tolerance 0 that
model answers `Ok` with loads 9 / 3. -/
theorem ckk_unsound_before_fix :
    run { sumSeparate := true } [9,9,9,9,9] [3,3,2,2,2] 0 = .ok [0,1,0,0,0] ∧
    load [3,3,2,2,2] [0,1,0,0,0] 0 = 9 ∧ load [3,3,2,2,2] [0,1,0,0,0] 1 = 3 := by
  decide

/-- Non-vacuity: the hypotheses of `ckk_sound`/`ckk_complete` are met by
concrete non-trivial inputs, one of each outcome. -/
example : run {} [7,7,7,7,7] [3,3,2,2,2] 0 = .ok [1,1,0,0,0] := by decide
example : run {} [7,7,7] [3,3,1] 0 = .notFound := by decide

end Coupe.Ckk

#print axioms Coupe.Ckk.ckk_sound
#print axioms Coupe.Ckk.ckk_complete
#print axioms Coupe.Ckk.ckk_total
#print axioms Coupe.Ckk.ckk_len_mismatch
#print axioms Coupe.Ckk.ckk_unsound_before_fix
