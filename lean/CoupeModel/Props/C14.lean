import CoupeModel.Model.Basic
import CoupeModel.Model.Vn
import CoupeModel.Proofs.Vn

/-!
# C14 — VnBest and VnFirst never worsen the load gap

Property theorems only (helper lemmas live in `Proofs/Vn.lean`).

Vocabulary: `partCount ids = 1 + max id` is the number of parts both algorithms derive from the
input array; `loads ws ids k` is the table of the true loads of parts `0..k-1`;
`gap l = maxL l - minL l` is the difference between the heaviest and the lightest part.  The gap of
the output is measured over the SAME `k = partCount ids` parts as the input's (a part may end up
empty).  The weights `ws` are never written by either algorithm, the array keeps its length and
every id stays `< k` ("the total weight is only redistributed").

An outcome `.ok ids' c` carries the array after the call; the error outcomes carry no array: in
the model (as in the code) they are produced before the first write, so the array is untouched.

`cfg` selects the weight type: `{}` = `i64`, `{unsigned := true}` = `u64` (every subtraction
checked), `{halfExact := true}` = integer-valued `f64`.  The theorems hold for every `cfg` with
`breakAfterMove = true` (the code as it is after the fix of D7).
-/

namespace Coupe.Vn
open Coupe.Vn

/-- One move of VnBest: taking `0 < w < gap` from a cell holding the maximum and adding it to a
cell holding the minimum raises the minimum and lowers the maximum (weakly). -/
theorem vnbest_step (pl : List Int) (o u : Nat) (w : Int)
    (ho : pl[o]? = some (maxL pl)) (_hu : pl[u]? = some (minL pl)) (hw : 0 < w)
    (hlt : w < gap pl) :
    minL pl ≤ minL ((pl.set o (maxL pl - w)).set u (minL pl + w)) ∧
      maxL ((pl.set o (maxL pl - w)).set u (minL pl + w)) ≤ maxL pl := by
  have hne := moved_ne_nil (List.ne_nil_of_mem (List.mem_of_getElem? ho)) o u (maxL pl) (minL pl) w
  have hb := moved_bounds (p := o) (q := u) (fun x hx => ⟨minL_le hx, le_maxL hx⟩) (Int.le_refl _)
    (Int.le_refl _) (Int.le_of_lt hw) (Int.le_of_lt hlt)
  exact ⟨(hb _ (minL_mem hne)).1, (hb _ (maxL_mem hne)).2⟩

/-- VnBest never reports a length mismatch on equal lengths and always does on different ones;
nothing is written before. -/
theorem vnbest_len_mismatch (cfg : Cfg) (ids : List Nat) (ws : List Int) :
    VnBest.run cfg ids ws = .lenMismatch ↔ ws.length ≠ ids.length := by
  rcases VnBest.run_cases cfg ids ws with ⟨hne, h⟩ | ⟨hlen, _, h⟩ | ⟨hlen, _, _, _, h, _⟩
  · exact ⟨fun _ => hne, fun _ => h⟩
  · rw [h]; exact ⟨nofun, fun hne => absurd hlen hne⟩
  · rw [h]; exact ⟨nofun, fun hne => absurd hlen hne⟩

/-- `VnBest rejects negative weights with NegativeValues`: a negative weight at ANY position
(lengths matching, any number of parts – one part and the all-zero case included) gives
`Err(NegativeValues)`; the array is untouched (error outcomes are produced before any write). -/
theorem vnbest_negative (cfg : Cfg) (ids : List Nat) (ws : List Int)
    (hlen : ws.length = ids.length) (hneg : ∃ w ∈ ws, w < 0) :
    VnBest.run cfg ids ws = .negativeValues := by
  rcases VnBest.run_cases cfg ids ws with ⟨hne, _⟩ | ⟨_, _, h⟩ | ⟨_, hnn, _⟩
  · exact absurd hlen hne
  · exact h
  · obtain ⟨w, hw, hw0⟩ := hneg
    exact absurd hw0 (Int.not_lt.2 (hnn w hw))

/-- …and only then. -/
theorem vnbest_negative_only (cfg : Cfg) (ids : List Nat) (ws : List Int)
    (h : VnBest.run cfg ids ws = .negativeValues) : ∃ w ∈ ws, w < 0 := by
  rcases VnBest.run_cases cfg ids ws with ⟨_, h'⟩ | ⟨_, hneg, _⟩ | ⟨_, _, _, _, h', _⟩
  · rw [h'] at h; cases h
  · exact hneg
  · rw [h'] at h; cases h

/-- `Ok` is returned only on matching lengths and non-negative weights. -/
theorem vnbest_ok_inputs {cfg : Cfg} {ids ids' : List Nat} {ws : List Int} {c : Nat}
    (h : VnBest.run cfg ids ws = .ok ids' c) : ws.length = ids.length ∧ ∀ w ∈ ws, 0 ≤ w := by
  rcases VnBest.run_cases cfg ids ws with ⟨_, h'⟩ | ⟨_, _, h'⟩ | ⟨hlen, hnn, _⟩
  · rw [h'] at h; cases h
  · rw [h'] at h; cases h
  · exact ⟨hlen, hnn⟩

/-- VnBest never worsens the load gap: any weights, any number of parts, any input array. -/
theorem vnbest_gap_le (cfg : Cfg) (ids ids' : List Nat) (ws : List Int) (c : Nat)
    (h : VnBest.run cfg ids ws = .ok ids' c) :
    gap (loads ws ids' (partCount ids)) ≤ gap (loads ws ids (partCount ids)) := by
  rcases VnBest.run_cases cfg ids ws with ⟨_, h'⟩ | ⟨_, _, h'⟩ | ⟨_, _, _, _, h', _, _, hgap⟩
  · rw [h'] at h; cases h
  · rw [h'] at h; cases h
  · rw [h'] at h; cases h; exact hgap

/-- The total weight is only redistributed: the array keeps its length, every id stays below the
part count of the input (feeds C02), hence the loads of the `k` parts still add up to the total
weight – the same as before. -/
theorem vnbest_total_preserved (cfg : Cfg) (ids ids' : List Nat) (ws : List Int) (c : Nat)
    (h : VnBest.run cfg ids ws = .ok ids' c) :
    ids'.length = ids.length ∧ (∀ i ∈ ids', i < partCount ids) ∧
      (loads ws ids' (partCount ids)).sum = ws.sum ∧
      (loads ws ids' (partCount ids)).sum = (loads ws ids (partCount ids)).sum := by
  rcases VnBest.run_cases cfg ids ws with ⟨_, h'⟩ | ⟨_, _, h'⟩ | ⟨hlen, _, _, _, h', hl, hr, _⟩
  · rw [h'] at h; cases h
  · rw [h'] at h; cases h
  · rw [h'] at h; cases h
    have s1 := sum_loads (hlen.trans hl.symm) hr
    exact ⟨hl, hr, s1, s1.trans (sum_loads hlen (inRange_partCount ids)).symm⟩

/-- The guard of commit bff6050 (N9: `break` unless `part_loads[over] - w` and
`part_loads[under] + w` are both strictly below the current maximum `part_loads[over]`) is
vacuous on exact weights: it always passes once `imbalance > w > 0` held.  It exists for
rounded floating-point loads, which are outside this model (the harness's raw-float stream checks
them by oracle under a watchdog). -/
theorem vnbest_guard_vacuous (lo lu w : Int) (hw : 0 < w) (hlt : w < lo - lu) :
    lo - w < lo ∧ lu + w < lo ∧ (!(decide (lo - w < lo) && decide (lu + w < lo))) = false :=
  ⟨by omega, by omega, VnBest.guard_vacuous_int hw hlt⟩

/-- VnBest terminates without panicking on EVERY input and weight type: no `unwrap` on an empty
`minmax`, no index out of bounds, no unsigned underflow, and the fuel `Σ load² + 1` of the input
is never exhausted (Σ load² strictly decreases with every move – `sumsq_moved_lt`). -/
theorem vnbest_terminates (cfg : Cfg) (ids : List Nat) (ws : List Int) :
    VnBest.run cfg ids ws ≠ .abort := by
  rcases VnBest.run_cases cfg ids ws with ⟨_, h⟩ | ⟨_, _, h⟩ | ⟨_, _, _, _, h, _⟩ <;>
    rw [h] <;> nofun

/-- `part_loads` is the table of the true loads of the current array at every head of the `while`
loop (after any number `n` of turns of its body), and `imbalance` / `max_load` are its gap and
maximum; no turn panics.  True of the code as it is now (`breakAfterMove`); false before the fix
of D7 (`vnfirst_d7_regression`).  On `u64` it needs non-negative weights (always true there). -/
theorem vnfirst_loads_inv (cfg : Cfg) (hb : cfg.breakAfterMove = true) (ids : List Nat)
    (ws : List Int) (hlen : ws.length = ids.length) (hws : ws ≠ [])
    (hu : cfg.unsigned = true → ∀ w ∈ ws, 0 ≤ w) (n : Nat) :
    ∃ s0 s, VnFirst.start cfg ids ws = some s0 ∧
      VnFirst.steps cfg ws (partCount ids) n s0 = some s ∧
      s.pl = loads ws s.ids (partCount ids) ∧ s.imb = gap s.pl ∧ s.mx = maxL s.pl := by
  obtain ⟨s0, h0, hinv0, _⟩ := VnFirst.start_spec cfg hlen
  obtain ⟨s, h1, hinv, _⟩ := VnFirst.steps_spec cfg hb hws hu n hinv0
  exact ⟨s0, s, h0, h1, hinv.pl, hinv.imb, hinv.mx⟩

theorem vnfirst_len_mismatch (cfg : Cfg) (ids : List Nat) (ws : List Int)
    (h : ws.length ≠ ids.length) : VnFirst.run cfg ids ws = .lenMismatch := by
  rw [VnFirst.run, if_pos h]

/-- VnFirst never worsens the load gap (signed weights: ANY weights, even negative ones). -/
theorem vnfirst_gap_le (cfg : Cfg) (hb : cfg.breakAfterMove = true) (ids ids' : List Nat)
    (ws : List Int) (c : Nat) (hu : cfg.unsigned = true → ∀ w ∈ ws, 0 ≤ w)
    (h : VnFirst.run cfg ids ws = .ok ids' c) :
    gap (loads ws ids' (partCount ids)) ≤ gap (loads ws ids (partCount ids)) := by
  rcases VnFirst.run_cases cfg hb ids ws hu with ⟨_, h'⟩ | ⟨_, _, _, h', _, _, hgap, _⟩
  · rw [h'] at h; cases h
  · rw [h'] at h; cases h; exact hgap

/-- The total weight is only redistributed (see `vnbest_total_preserved`); moreover VnFirst
relabels AT MOST ONE element per call (the loop test `i != i_last` fails right after the first
accepted move). -/
theorem vnfirst_total_preserved (cfg : Cfg) (hb : cfg.breakAfterMove = true)
    (ids ids' : List Nat) (ws : List Int) (c : Nat)
    (hu : cfg.unsigned = true → ∀ w ∈ ws, 0 ≤ w)
    (h : VnFirst.run cfg ids ws = .ok ids' c) :
    ids'.length = ids.length ∧ (∀ i ∈ ids', i < partCount ids) ∧
      (loads ws ids' (partCount ids)).sum = ws.sum ∧
      (loads ws ids' (partCount ids)).sum = (loads ws ids (partCount ids)).sum ∧
      (ids' = ids ∨ ∃ j q, q < partCount ids ∧ ids' = ids.set j q) := by
  rcases VnFirst.run_cases cfg hb ids ws hu with ⟨_, h'⟩ | ⟨hlen, _, _, h', hl, hr, _, hmv⟩
  · rw [h'] at h; cases h
  · rw [h'] at h; cases h
    have s1 := sum_loads (hlen.trans hl.symm) hr
    exact ⟨hl, hr, s1, s1.trans (sum_loads hlen (inRange_partCount ids)).symm, hmv⟩

/-- VnFirst terminates without panicking: the fuel of the model's `while` loop is
`weights.len()` turns and is never exhausted (the cursor visits `1, 2, …, len-1, 0` and stops,
or stops earlier right after the first accepted move); no index is out of bounds and – with
non-negative weights – no `u64` subtraction underflows. -/
theorem vnfirst_terminates (cfg : Cfg) (hb : cfg.breakAfterMove = true) (ids : List Nat)
    (ws : List Int) (hu : cfg.unsigned = true → ∀ w ∈ ws, 0 ≤ w) :
    VnFirst.run cfg ids ws ≠ .abort := by
  rcases VnFirst.run_cases cfg hb ids ws hu with ⟨_, h⟩ | ⟨_, _, _, h, _⟩ <;> rw [h] <;> nofun

/-- Regression witness of defect D7 (before commit b8a8705 the `for q` loop went on after an
accepted move with the stale source part `p`).  On the `u64` witness
`[1,5,1,3,3,1,5]` / `[0,1,2,3,1,2,0]` that model aborts ("attempt to subtract with overflow");
on the signed input `[1,1,0]` / `[2,2,0]` it accepts two targets for the same weight and ends
with the table `[1,1,0]` although the true loads of its array `[2,1,0]` are `[0,1,1]`.
The current model handles both. -/
theorem vnfirst_d7_regression :
    VnFirst.run { breakAfterMove := false, unsigned := true } [0,1,2,3,1,2,0] [1,5,1,3,3,1,5]
      = .abort ∧
    VnFirst.run { unsigned := true } [0,1,2,3,1,2,0] [1,5,1,3,3,1,5]
      = .ok [0,2,2,3,1,2,0] 1 ∧
    ((VnFirst.start { breakAfterMove := false } [2,2,0] [1,1,0]).bind
        (VnFirst.scan { breakAfterMove := false } [1,1,0] 3 3)).map (fun s => (s.ids, s.pl))
      = some ([2,1,0], [1,1,0]) ∧
    loads [1,1,0] [2,1,0] 3 = [0,1,1] ∧
    ((VnFirst.start {} [2,2,0] [1,1,0]).bind
        (VnFirst.scan {} [1,1,0] 3 3)).map (fun s => (s.ids, s.pl))
      = some ([2,0,0], [1,0,1]) ∧
    loads [1,1,0] [2,0,0] 3 = [1,0,1] := by
  decide +kernel

/-! ## Non-vacuity: concrete non-trivial inputs meeting the hypotheses, one per outcome -/

example : VnBest.run {} [0,1,2,3,1,2,0] [1,5,1,3,3,1,5] = .ok [3,1,2,3,2,2,0] 2 := by decide +kernel
example : gap (loads [1,5,1,3,3,1,5] [0,1,2,3,1,2,0] 4) = 6 ∧
    gap (loads [1,5,1,3,3,1,5] [3,1,2,3,2,2,0] 4) = 1 := by decide +kernel
example : VnBest.run { unsigned := true } [0,0,0,1] [4,6,2,9] = .ok [0,0,1,1] 1 := by decide +kernel
example : VnBest.run {} [0,0,1] [4,-6,2] = .negativeValues := by decide +kernel
example : VnBest.run {} [0,0,0] [4,-6,2] = .negativeValues := by decide +kernel
example : VnBest.run {} [0,1] [4,6,2] = .lenMismatch := by decide +kernel
example : VnFirst.run {} [0,1,2,3,1,2,0] [1,5,1,3,3,1,5] = .ok [0,2,2,3,1,2,0] 1 := by decide +kernel
example : gap (loads [1,5,1,3,3,1,5] [0,2,2,3,1,2,0] 4) = 4 := by decide +kernel
example : VnFirst.run {} [0,1] [4,6,2] = .lenMismatch := by decide +kernel
/-- the hypothesis `unsigned → non-negative` of the VnFirst theorems, on `u64` -/
example : VnFirst.run { unsigned := true } [0,0,0,1] [4,6,2,9] = .ok [0,0,1,1] 2 ∧
    ∀ w ∈ ([4,6,2,9] : List Int), 0 ≤ w := by decide +kernel
/-- `vnfirst_loads_inv` after two turns on the D7 witness -/
example : ((VnFirst.start {} [0,1,2,3,1,2,0] [1,5,1,3,3,1,5]).bind
    (VnFirst.steps {} [1,5,1,3,3,1,5] 4 2)).map (fun s => (s.ids, s.pl))
      = some ([0,2,0,3,1,2,0], [7,3,6,3]) ∧
    loads [1,5,1,3,3,1,5] [0,2,0,3,1,2,0] 4 = [7,3,6,3] := by decide +kernel
/-- hypotheses of `vnbest_guard_vacuous` -/
example : (0:Int) < 3 ∧ (3:Int) < 8 - 2 := by decide +kernel
/-- hypotheses of `vnbest_step` -/
example : ([6,8,2,3] : List Int)[1]? = some (maxL [6,8,2,3]) ∧
    ([6,8,2,3] : List Int)[2]? = some (minL [6,8,2,3]) ∧ (0:Int) < 3 ∧ 3 < gap [6,8,2,3] := by decide +kernel

end Coupe.Vn

#print axioms Coupe.Vn.vnbest_step
#print axioms Coupe.Vn.vnbest_len_mismatch
#print axioms Coupe.Vn.vnbest_negative
#print axioms Coupe.Vn.vnbest_negative_only
#print axioms Coupe.Vn.vnbest_ok_inputs
#print axioms Coupe.Vn.vnbest_gap_le
#print axioms Coupe.Vn.vnbest_total_preserved
#print axioms Coupe.Vn.vnbest_terminates
#print axioms Coupe.Vn.vnbest_guard_vacuous
#print axioms Coupe.Vn.vnfirst_loads_inv
#print axioms Coupe.Vn.vnfirst_len_mismatch
#print axioms Coupe.Vn.vnfirst_gap_le
#print axioms Coupe.Vn.vnfirst_total_preserved
#print axioms Coupe.Vn.vnfirst_terminates
#print axioms Coupe.Vn.vnfirst_d7_regression
