import CoupeModel.Model.Rcb
import CoupeModel.Proofs.Rcb
import CoupeModel.Proofs.RcbBalance
import CoupeModel.Proofs.RcbTree

/-!
# C04 — each Rcb/Rib bisection is within tolerance or adjacent to the weighted median

The full statement is `C04_statement`.  It is FALSE of the code (and of the model, which
replays the code): `plateau_counterexample` (K1a), `heavy_left_counterexample` (K1b) and
`all_left_counterexample` (K1c, found while building this check) are machine-checked
witnesses on the exact integer instance, so they are defects of the search's stopping
rules, not of floating point.  K2 (rounded `f32` distances hide a nearer point) and K2b
(the exit test `max <= split_target + nearest_distance` decided by rounding) need `f32`
arithmetic and are exhibited by the differential run only (corpus `k2_rounding.case`,
`k2b_nopoint_rounding.case`).

What is proved: see the individual theorems; names ending in `_partial` cover only part of
the statement and say which.
-/

namespace Coupe.Rcb

variable {α : Type} [Coord α]

/-- **The property, in full.**  For every input with non-negative weights on which `rcb`
returns, every bisection node of the recursion tree is balanced: its actual low-side weight
passes the tolerance test against the node's actual weight, or is one of the achievable
cut weights adjacent to the half (`nodeOk`, `bracketsHalf`). -/
def C04_statement (α : Type) [Coord α] : Prop :=
  ∀ (wt : Int → Int → Bool) (cfg : Cfg) (iter : Nat) (pts : List (List α)) (ws : List Int)
    (t : Tree (NodeInfo α)),
    (∀ w ∈ ws, 0 ≤ w) → ws.length = pts.length →
    runTree wt cfg iter pts ws (bbox cfg.dim pts).1 (bbox cfg.dim pts).2 = .ok t →
    balanced wt pts ws t = true

/-- The tolerance exit is taken only when the imbalance test holds for the weight the
search reports (`weight_left`) against the weight it was given (`sum`). -/
theorem split_exit_tol (wt : Int → Int → Bool) (coord : Nat) (sum : Int) (items : List (Item α))
    (fuel : Nat) (mn mx : α) (out : SplitOut α)
    (h : split wt coord sum items fuel 0 mn mx none false = .ok out) (he : out.exit = .tolerance) :
    wt out.weightLeft sum = true :=
  split_exit_tol_aux h he

/-- K1(a): the count-plateau exit.  x = 0,1,15,16,17, weights 0,1,50,53,0, tolerance 1/20:
the search stops at the plateau between 1 and 15 with 1 of 104 on the low side, although
the cut 51 | 53 is achievable (and within tolerance). -/
theorem plateau_counterexample :
    judge (α := Int) tolTwentieth ⟨2, 100⟩ 1
      [[0, 0], [1, 0], [15, 0], [16, 0], [17, 0]] [0, 1, 50, 53, 0] = some [(.plateau, false)] := by
  decide +kernel

/-- K1(b): the `max <= split_target + nearest_distance` exit with a heavy low side.
x = 0,1,2,3,100, unit weights, tolerance 0: 4 of 5 on the low side (a lone outlier). -/
theorem heavy_left_counterexample :
    judge (α := Int) tolZero ⟨2, 100⟩ 1
      [[0, 0], [1, 0], [2, 0], [3, 0], [100, 0]] [1, 1, 1, 1, 1] = some [(.noPointToMax, false)] := by
  decide +kernel

/-- K1(c): the "all points left, twice" exit in a loose bounding box.  After the root cut
(3 | 3) the low child keeps the box `x ∈ [0, 51]`; its three points 0,1,2 lie in the low
quarter of that box, so two consecutive targets (25, 12) see everything on the left and
the node is not cut at all (3 | 0) although 1 | 2 is achievable. -/
theorem all_left_counterexample :
    judge (α := Int) tolZero ⟨2, 100⟩ 3
      [[0, 0], [1, 0], [2, 0], [100, 0], [101, 0], [102, 0]] [1, 1, 1, 1, 1, 1] =
      some [(.tolerance, true), (.noPointToMax, true), (.allLeft, false),
            (.noPointToMax, true), (.plateau, false)] := by
  decide +kernel

/-- Hence the full statement does not hold of the model (on exact integers). -/
theorem C04_statement_false : ¬ C04_statement Int := by
  intro h
  have hj := heavy_left_counterexample
  unfold judge at hj
  dsimp only at hj
  split at hj
  · next t ht =>
    have hb := (balanced_iff_verdicts _ _ _ t).1
      (h tolZero ⟨2, 100⟩ 1 _ _ t (by decide) (by decide) ht)
    exact nomatch hb (.noPointToMax, false) (Option.some.inj hj ▸ List.mem_singleton.2 rfl)
  · cases hj

/-! ## The positive side, in exact arithmetic (`α = Int`)

The theorems below are about ONE cut search (`par_rcb_split`) on integer coordinates with
non-negative weights, given the true weight of its items (`sum = sumW items`).  They are
`_partial` with respect to C04 in two ways, both stated: (1) exact arithmetic – on `f32`
the hypothesis "a smaller rounded distance means a smaller coordinate" fails, which is
defect K2; (2) the premise `Resolved` excludes exactly the early exits K1a/K1b/K1c.
They are composed over the recursion tree in the last section (`rcb_recursion_invariant`,
`rcb_balanced_partial`, `rcb_balanced`). -/

/-- `split_invariant`: started from an interval that brackets the half
(`2·L(min) ≤ W ≤ 2·L≤(max)`, true of the node's bounding box), the search keeps
`2·L(min) ≤ W` and `W ≤ 2·L(max)` (`L` = weight strictly left; `L≤` while `max` is still
the box bound) up to the moment it returns. -/
theorem split_invariant (wt : Int → Int → Bool) (coord : Nat) (items : List (Item Int))
    (hw : ∀ x ∈ items, 0 ≤ x.w) (fuel : Nat) (mn mx : Int) (out : SplitOut Int)
    (hJ : Jinv items coord (sumW items) mn mx false)
    (h : split wt coord (sumW items) items fuel 0 mn mx none false = .ok out) :
    Jinv items coord (sumW items) out.lastMin out.lastMax out.maxMoved :=
  split_jinv hw hJ h

/-- `split_reported_weight` (what `test_par_rcb_split` samples): in exact arithmetic the
reported `weight_left` is the weight of the returned low side, and `sum - weight_left`
that of the high side – for every exit and every starting interval. (False on `f32`: K2.) -/
theorem split_reported_weight_partial (wt : Int → Int → Bool) (coord : Nat) (items : List (Item Int))
    (hw : ∀ x ∈ items, 0 ≤ x.w) (fuel : Nat) (mn mx : Int) (out : SplitOut Int)
    (h : split wt coord (sumW items) items fuel 0 mn mx none false = .ok out) :
    out.weightLeft = sumW out.left ∧ sumW items - out.weightLeft = sumW out.right :=
  split_reported_weight_aux h

/-- `split_exit_resolved`: if the items inside the FINAL search interval carry at most one
distinct coordinate value, the returned low side is an achievable cut adjacent to the
half – through whichever exit the search left (plateau, no-point-to-max, all-left,
tolerance). -/
theorem split_exit_resolved_partial (wt : Int → Int → Bool) (coord : Nat) (items : List (Item Int))
    (hw : ∀ x ∈ items, 0 ≤ x.w) (fuel : Nat) (mn mx : Int) (out : SplitOut Int)
    (hJ : Jinv items coord (sumW items) mn mx false)
    (h : split wt coord (sumW items) items fuel 0 mn mx none false = .ok out)
    (hres : Resolved items coord out.lastMin out.lastMax out.maxMoved) :
    bracketsHalf (achievableItems items coord) (sumW out.left) (sumW items) = true :=
  split_exit_resolved_aux hw hJ h hres

/-- C04 at one node under the premise "tolerance exit or resolved interval": the actual
low-side weight passes the tolerance test against the actual node weight, or brackets the
half. -/
theorem split_balanced_partial (wt : Int → Int → Bool) (coord : Nat) (items : List (Item Int))
    (hw : ∀ x ∈ items, 0 ≤ x.w) (fuel : Nat) (mn mx : Int) (out : SplitOut Int)
    (hJ : Jinv items coord (sumW items) mn mx false)
    (h : split wt coord (sumW items) items fuel 0 mn mx none false = .ok out)
    (hprem : out.exit = .tolerance ∨ Resolved items coord out.lastMin out.lastMax out.maxMoved) :
    wt (sumW out.left) (sumW items) = true ∨
      bracketsHalf (achievableItems items coord) (sumW out.left) (sumW items) = true := by
  rcases hprem with he | hres
  · left
    rw [← (split_reported_weight_aux h).1]
    exact split_exit_tol_aux h he
  · right
    exact split_exit_resolved_aux hw hJ h hres

/-- A bounding box that contains the items' coordinates satisfies the starting hypothesis
`Jinv` of the theorems above. -/
theorem jinv_of_box (coord : Nat) (items : List (Item Int)) (hw : ∀ x ∈ items, 0 ≤ x.w) (mn mx : Int)
    (hne : items ≠ []) (hbox : ∀ x ∈ items, mn ≤ x.key coord ∧ x.key coord ≤ mx) :
    Jinv items coord (sumW items) mn mx false :=
  jinv_of_box_aux coord items hw mn mx hne hbox

/-- A tree-level composition in the vocabulary of `verdicts` (proved below: `rcb_balanced`).
Its premise mentions `nodeOk` itself for the non-tolerance exits, so its content is "the
tolerance exits are within tolerance of the TRUE weights"; the per-node composition with
the premise `Resolved` is `rcb_balanced_partial`. -/
def rcb_balanced_statement : Prop :=
  ∀ (wt : Int → Int → Bool) (cfg : Cfg) (iter : Nat) (pts : List (List Int)) (ws : List Int)
    (t : Tree (NodeInfo Int)),
    (∀ w ∈ ws, 0 ≤ w) → ws.length = pts.length →
    runTree wt cfg iter pts ws (bbox cfg.dim pts).1 (bbox cfg.dim pts).2 = .ok t →
    (∀ v ∈ verdicts wt pts ws t, v.1 = .tolerance ∨ v.2 = true) →
    balanced wt pts ws t = true

/-- Non-vacuity of the premises: keys 0,10,20,30,40, weights 1,1,5,1,1, tolerance 0 – the
box satisfies `Jinv`, the search leaves through the plateau exit with the resolved interval
`[20, 30)` and 7 of 9 on the low side (the heavy point is the weighted median). -/
example : checkSplit tolZero 0
    [⟨0, 1, [0]⟩, ⟨1, 1, [10]⟩, ⟨2, 5, [20]⟩, ⟨3, 1, [30]⟩, ⟨4, 1, [40]⟩] 100 0 40
    (fun out => out.exit == .plateau &&
      resolvedB [⟨0, 1, [0]⟩, ⟨1, 1, [10]⟩, ⟨2, 5, [20]⟩, ⟨3, 1, [30]⟩, ⟨4, 1, [40]⟩] 0
        out.lastMin out.lastMax out.maxMoved &&
      out.lastMin == 20 && out.lastMax == 30 && out.maxMoved && sumW out.left == 7) = true := by
  decide +kernel

/-- Non-vacuity of the positive side: an 8-point input all of whose bisections are
balanced (all exits through the tolerance test). -/
example : judge (α := Int) tolZero ⟨2, 100⟩ 2
    [[0, 0], [1, 1], [2, 2], [3, 3], [4, 0], [5, 1], [6, 2], [7, 3]] [1, 1, 1, 1, 1, 1, 1, 1] =
    some [(.tolerance, true), (.tolerance, true), (.tolerance, true)] := by decide +kernel

/-! ## The composition over the recursion tree -/

/-- `recurseT`/`runTreeT` (Proofs/RcbTree.lean) is `recurse`/`runTree` recording, per node,
also the last interval of the search (the data of the premise `Resolved`).  Forgetting these
ghost fields gives the tree of the recursion the driver executes – on every input, for
every coordinate type, failures included. -/
theorem runTreeT_erases (wt : Int → Int → Bool) (cfg : Cfg) (iter : Nat) (pts : List (List α))
    (ws : List Int) (lo hi : List α) :
    Res.map (Tree.map NodeTrace.info) (runTreeT wt cfg iter pts ws lo hi) =
      runTree wt cfg iter pts ws lo hi :=
  recurseT_erase wt cfg iter _ _ _ _ _ _

/-- **The invariant of `rcb_recurse`** (exact arithmetic, weights ≥ 0, `D ≥ 1`, the box of
`rcb`): at EVERY bisection node, whichever exit its search took,
(i) the `sum` the node was handed is the true weight of its points and the reported
`weight_left` is the true weight of its low side (so the child's `sum` is true again);
(ii) the interval the search starts from – the inherited bounding box, clipped at the
ancestors' `split_pos` – contains the node's points, and the two sides lie on their sides
of the node's `split_pos` (so the clipped boxes contain the children's points);
(iii) the points of the node are the leaves below it (`Tree.members`): `t` is the bisection
tree of C03 (`IsBisection`; it is the tree `rcb_is_bisection` exhibits) and the root holds
all points. -/
theorem rcb_recursion_invariant (wt : Int → Int → Bool) (cfg : Cfg) (iter : Nat)
    (pts : List (List Int)) (ws : List Int) (t : Tree (NodeInfo Int))
    (hdim : 0 < cfg.dim) (hw : ∀ w ∈ ws, 0 ≤ w) (hlen : ws.length = pts.length)
    (h : runTree wt cfg iter pts ws (bbox cfg.dim pts).1 (bbox cfg.dim pts).2 = .ok t) :
    ∃ tt : Tree (NodeTrace Int),
      runTreeT wt cfg iter pts ws (bbox cfg.dim pts).1 (bbox cfg.dim pts).2 = .ok tt ∧
      tt.map NodeTrace.info = t ∧ IsBisection (ptKey pts) cfg.dim iter 0 0 t ∧
      tt.members.Perm (List.range pts.length) ∧
      tt.AllNodes (fun tr lo hi =>
        tr.info.sum = wOf ws (lo.members ++ hi.members) ∧
        tr.info.weightLeft = wOf ws lo.members ∧
        (∀ i ∈ lo.members ++ hi.members,
          tr.info.min ≤ ptKey pts i tr.info.coord ∧ ptKey pts i tr.info.coord ≤ tr.info.max) ∧
        (∀ i ∈ lo.members, ptKey pts i tr.info.coord ≤ tr.info.splitPos) ∧
        (∀ j ∈ hi.members, tr.info.splitPos ≤ ptKey pts j tr.info.coord)) := by
  obtain ⟨tt, hT, he⟩ := runTree_has_trace wt cfg iter pts ws _ _ t h
  obtain ⟨hp, hA⟩ := runTreeT_facts True wt cfg iter pts ws _ _ tt hw hlen
    (fun _ => ⟨hdim, bbox_boxOk cfg.dim pts ws⟩) hT
  exact ⟨tt, hT, he, (runTree_bisection_int wt cfg iter pts ws _ _ t hlen h).1, hp,
    hA.imp (fun _ _ _ ⟨h1, h2, _, hg⟩ =>
      ⟨h1, h2, (hg trivial).1, (hg trivial).2.1, (hg trivial).2.2.1⟩)⟩

/-- **C04 along the whole recursion, per node, under the premise of
`split_balanced_partial`.**  For every input (integer coordinates, weights ≥ 0, `D ≥ 1`) on
which `rcb` returns, and EVERY bisection node of its tree: if the node's search left
through the tolerance test, or with a resolved final interval (`NodePremise`: the members
whose coordinate lies in the last `[min, max)` carry at most one distinct value), then the
node satisfies C04's clause `nodeOk` – computed from the input points, the input weights
and the member lists only: the true low-side weight passes the tolerance test against the
true node weight, or is an achievable cut weight adjacent to the half.
`_partial`: exact arithmetic only (K2), and the premise excludes the early exits K1a/b/c. -/
theorem rcb_balanced_partial (wt : Int → Int → Bool) (cfg : Cfg) (iter : Nat)
    (pts : List (List Int)) (ws : List Int) (t : Tree (NodeInfo Int))
    (hdim : 0 < cfg.dim) (hw : ∀ w ∈ ws, 0 ≤ w) (hlen : ws.length = pts.length)
    (h : runTree wt cfg iter pts ws (bbox cfg.dim pts).1 (bbox cfg.dim pts).2 = .ok t) :
    ∃ tt : Tree (NodeTrace Int),
      runTreeT wt cfg iter pts ws (bbox cfg.dim pts).1 (bbox cfg.dim pts).2 = .ok tt ∧
      tt.map NodeTrace.info = t ∧
      tt.AllNodes (fun tr lo hi =>
        NodePremise pts tr lo hi → nodeOk wt pts ws tr.info.coord lo.members hi.members = true) := by
  obtain ⟨tt, hT, he⟩ := runTree_has_trace wt cfg iter pts ws _ _ t h
  obtain ⟨_, hA⟩ := runTreeT_facts True wt cfg iter pts ws _ _ tt hw hlen
    (fun _ => ⟨hdim, bbox_boxOk cfg.dim pts ws⟩) hT
  exact ⟨tt, hT, he, hA.imp (fun _ _ _ hf => hf.nodeOk_of_premise trivial)⟩

/-- Corollary in the vocabulary of `C04_statement`: if every node of the run meets the
premise, the tree is `balanced`. -/
theorem rcb_balanced_of_premise_partial (wt : Int → Int → Bool) (cfg : Cfg) (iter : Nat)
    (pts : List (List Int)) (ws : List Int) (tt : Tree (NodeTrace Int))
    (hdim : 0 < cfg.dim) (hw : ∀ w ∈ ws, 0 ≤ w) (hlen : ws.length = pts.length)
    (h : runTreeT wt cfg iter pts ws (bbox cfg.dim pts).1 (bbox cfg.dim pts).2 = .ok tt)
    (hprem : tt.AllNodes (fun tr lo hi => NodePremise pts tr lo hi)) :
    runTree wt cfg iter pts ws (bbox cfg.dim pts).1 (bbox cfg.dim pts).2 =
        .ok (tt.map NodeTrace.info) ∧
      balanced wt pts ws (tt.map NodeTrace.info) = true := by
  refine ⟨?_, ?_⟩
  · rw [← runTreeT_erases, h]; rfl
  · obtain ⟨_, hA⟩ := runTreeT_facts True wt cfg iter pts ws _ _ tt hw hlen
      (fun _ => ⟨hdim, bbox_boxOk cfg.dim pts ws⟩) h
    rw [balanced_map_iff]
    exact (hA.and hprem).imp (fun _ _ _ ⟨hf, hp⟩ => hf.nodeOk_of_premise trivial hp)

/-- `rcb_balanced_statement` holds (every `D`, every box would do): the nodes that leave
through the tolerance test are within tolerance of their TRUE weights. -/
theorem rcb_balanced : rcb_balanced_statement := by
  intro wt cfg iter pts ws t hw hlen h hv
  obtain ⟨tt, hT, rfl⟩ := runTree_has_trace wt cfg iter pts ws _ _ t h
  obtain ⟨_, hA⟩ := runTreeT_facts False wt cfg iter pts ws _ _ tt hw hlen False.elim hT
  rw [verdicts_all_iff wt pts ws (fun v => v.1 = .tolerance ∨ v.2 = true)] at hv
  rw [balanced_map_iff]
  refine (hA.and hv).imp (fun _ _ _ ⟨hs, hp⟩ => ?_)
  rcases hp with he | hok
  · exact hs.2.2.1 he
  · exact hok

/-- Non-vacuity of `rcb_balanced_partial`: 7 weighted points, 3 levels, 7 bisections
(pre-order: exit, premise met?, `nodeOk`?).  Five nodes meet the premise – one through the
tolerance test, four through a resolved interval on the plateau / no-point-to-max exits –
and are balanced; the two that do not meet it happen to be balanced too. -/
example : judgeT tolZero ⟨2, 100⟩ 3
    [[0, 5], [10, 1], [20, 7], [30, 3], [40, 0], [50, 9], [60, 2]] [1, 1, 5, 1, 1, 2, 2] =
    some [(.noPointToMax, true, true), (.plateau, true, true), (.tolerance, true, true),
          (.plateau, true, true), (.noPointToMax, false, true), (.noPointToMax, false, true),
          (.plateau, true, true)] := by decide +kernel

/-- … and on K1c's input the premise fails exactly at the two unbalanced nodes. -/
example : judgeT tolZero ⟨2, 100⟩ 3
    [[0, 0], [1, 0], [2, 0], [100, 0], [101, 0], [102, 0]] [1, 1, 1, 1, 1, 1] =
    some [(.tolerance, true, true), (.noPointToMax, true, true), (.allLeft, false, false),
          (.noPointToMax, true, true), (.plateau, false, false)] := by decide +kernel

/-- The hypothesis `0 < cfg.dim` of `rcb_recursion_invariant` / `rcb_balanced_partial` is
needed: with `D = 0` the model's bounding box is empty (every bound reads as `0`), the
search starts outside its points, leaves at once with a vacuously resolved interval and
cuts 0 | 3.  (`D = 0` is not a meaningful instantiation of the Rust code.) -/
example : judgeT tolZero ⟨0, 100⟩ 1 [[5], [7], [9]] [1, 1, 1] =
    some [(.noPointToMax, true, false)] := by decide +kernel

end Coupe.Rcb

#print axioms Coupe.Rcb.split_exit_tol
#print axioms Coupe.Rcb.split_invariant
#print axioms Coupe.Rcb.split_reported_weight_partial
#print axioms Coupe.Rcb.split_exit_resolved_partial
#print axioms Coupe.Rcb.split_balanced_partial
#print axioms Coupe.Rcb.jinv_of_box
#print axioms Coupe.Rcb.plateau_counterexample
#print axioms Coupe.Rcb.heavy_left_counterexample
#print axioms Coupe.Rcb.all_left_counterexample
#print axioms Coupe.Rcb.C04_statement_false
#print axioms Coupe.Rcb.runTreeT_erases
#print axioms Coupe.Rcb.rcb_recursion_invariant
#print axioms Coupe.Rcb.rcb_balanced_partial
#print axioms Coupe.Rcb.rcb_balanced_of_premise_partial
#print axioms Coupe.Rcb.rcb_balanced
