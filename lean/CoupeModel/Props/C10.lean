import CoupeModel.Model.GridRcb
import CoupeModel.Proofs.GridRcb
import CoupeModel.Proofs.GridRcbTree
import CoupeModel.Proofs.GridRcbSlabs
import CoupeModel.Proofs.GridRcbTop

/-!
# C10 — `Grid::rcb` yields balanced boxes and terminates for any thread count

Property theorems only (lemmas: `Proofs/GridRcb*.lean`).  `T` is the rayon pool
size, `minPw`/`maxPw` the two thresholds the code computes in `f64`
(`bracket total`); every theorem holds for all `T` (also `T = 1`, the case of
defect D4), all sizes and all weights, and the balance theorems for every pair
of thresholds that meets `Bracket`.

Reading guide for "the parts are boxes forming a recursive bisection":
`rcb2_struct`/`rcb3_struct` give a tree `t` with `Bisect D _ iter t (whole grid) 1`
(cuts along axes `1, 2 mod D, …`, each cut inside its box, depth `≤ iter`) such
that the ids are `part_of` of the cells; `boxes` says what `Bisect` means for the
ids: below `2^iter`, and two cells of the grid carry the same id exactly when
they lie in the same leaf box; `cell_inBox2/3` says the cells are in the grid box.
-/

namespace Coupe.GridRcb

/-- Termination for every thread count (the repaired code, `chunk_count = max(2, T)`):
fuel `len + 1` suffices, nothing aborts, and the position is inside the slice. -/
theorem median_terminates (T : Nat) (ws : List Int) (minPw maxPw : Int) :
    ∃ pos l, weightedMedian {} T ws minPw maxPw = .ok (pos, l) ∧ (0 < ws.length → pos < ws.length) :=
  median_ok {} T ws minPw maxPw (Nat.le_max_left 2 T)

/-- The reported `left_weight` is the prefix sum at the reported position
(the claim of the repository's `test_weighted_median`, for all inputs and `T`). -/
theorem median_prefix (T : Nat) (ws : List Int) (minPw maxPw : Int) (pos : Nat) (l : Int)
    (h : weightedMedian {} T ws minPw maxPw = .ok (pos, l)) : l = pre ws pos :=
  (median_spec {} T ws minPw maxPw pos l (by simp) h).1

/-- Balance from the loop invariant (`Σ ws[0..min) < minPw`, and `max < len →
Σ ws[0..max) > maxPw`): the prefix at the cut is inside `[minPw, maxPw]`, or it is
below `minPw` and the prefix one slab further is above `maxPw` (or that slab is
the last one). -/
theorem median_balanced (T : Nat) (ws : List Int) (minPw maxPw : Int) (pos : Nat) (l : Int)
    (hlen : 0 < ws.length) (h0 : 0 ≤ maxPw)
    (h : weightedMedian {} T ws minPw maxPw = .ok (pos, l)) :
    pos < ws.length ∧
      ((minPw ≤ l ∧ l ≤ maxPw) ∨
       (l < minPw ∧ (pos + 1 < ws.length → maxPw < pre ws (pos + 1)))) := by
  obtain ⟨a, c⟩ := (median_spec {} T ws minPw maxPw pos l (by simp) h).2 hlen
  exact ⟨a, c h0⟩

/-- The property's balance clause for one bisection: with thresholds meeting
`Bracket` for `total = Σ ws` and non-negative weights, the low side is within
1 % of half (plus one unit), or the cut is at the low edge of the slab that
contains the half-weight mark (`2·Σ ws[0..pos) ≤ total ≤ 2·Σ ws[0..pos]`). -/
theorem median_half_mark (T : Nat) (ws : List Int) (total minPw maxPw : Int) (pos : Nat) (l : Int)
    (hlen : 0 < ws.length) (hnn : ∀ w ∈ ws, 0 ≤ w) (htot : total = ws.sum)
    (hB : Bracket total minPw maxPw)
    (h : weightedMedian {} T ws minPw maxPw = .ok (pos, l)) :
    l = pre ws pos ∧ NodeBal total l (pre ws (pos + 1)) := by
  subst htot
  exact (median_nodeBal {} T ws minPw maxPw pos l (by simp) hlen (sum_nonneg ws hnn) hB h).2

/-- Regression theorem for defect D4 (code before commit 7addd49: `chunk_count = T`),
general form: on a one-thread pool, for ANY slice of at least two slabs and any
positive `min_part_weight`, the search never returns, whatever the fuel. -/
theorem median_hangs_T1 (ws : List Int) (minPw maxPw : Int) (hlen : 2 ≤ ws.length) (hpos : 0 < minPw) :
    ∀ fuel, medianLoop { minChunks := 1 } 1 ws minPw maxPw fuel 0 ws.length 0 = .error .outOfFuel :=
  medianLoop_stuck ws minPw maxPw 0 ws.length 0 (by omega) (Nat.le_refl _) (by simp [pre]) hpos

/-- Regression witness of D4: four unit weights, total 4 (thresholds
`(2·0.99) as i64 = 1`, `(2·1.01) as i64 = 2`), one thread.  For every fuel the
loop runs out of fuel: its state `(min, max, left) = (0, 4, 0)` is a fixed point. -/
theorem median_hangs_T1_before_fix :
    ∀ fuel, medianLoop { minChunks := 1 } 1 [1, 1, 1, 1] 1 2 fuel 0 4 0 = .error .outOfFuel :=
  median_hangs_T1 [1, 1, 1, 1] 1 2 (by decide) (by decide)

/-- The first bisection of the corpus witness (4×4 grid of unit weights: slab
sums `4 4 4 4`, total 16, thresholds 7 and 8) – same fixed point – and the whole
`Grid::rcb` call of the witness on the old model (`iter_count = 2`, one thread). -/
theorem rcb_hangs_T1_before_fix :
    (∀ fuel, medianLoop { minChunks := 1 } 1 [4, 4, 4, 4] 7 8 fuel 0 4 0 = .error .outOfFuel) ∧
    rcb2 { minChunks := 1 } 1 (fun t => some (99 * t / 200, 101 * t / 200)) 4 4
      #[1,1,1,1,1,1,1,1,1,1,1,1,1,1,1,1] 16 2 = .error .outOfFuel :=
  ⟨median_hangs_T1 [4, 4, 4, 4] 7 8 (by decide) (by decide), by decide +kernel⟩

/-- … whereas the repaired code returns the exact half on the same input. -/
theorem median_T1_after_fix : weightedMedian {} 1 [1, 1, 1, 1] 1 2 = .ok (2, 2) := by decide

theorem index_position_2d (w i : Nat) : indexOf2 w (positionOf2 w i) = i :=
  Nat.mod_add_div i w

theorem position_index_2d (w x y : Nat) (hx : x < w) : positionOf2 w (indexOf2 w (x, y)) = (x, y) := by
  simp only [indexOf2, positionOf2]
  rw [Nat.add_mul_mod_self_left, Nat.mod_eq_of_lt hx, Nat.add_mul_div_left _ _ (Nat.zero_lt_of_lt hx),
    Nat.div_eq_of_lt hx, Nat.zero_add]

theorem index_position_3d (w h i : Nat) : indexOf3 w h (positionOf3 w h i) = i := by
  simp only [indexOf3, positionOf3]
  rw [Nat.mod_add_div (i / w) h]
  exact Nat.mod_add_div i w

theorem position_index_3d (w h x y z : Nat) (hx : x < w) (hy : y < h) :
    positionOf3 w h (indexOf3 w h (x, y, z)) = (x, y, z) := by
  -- the 2-D maps twice: width `w` over the rows `indexOf2 h (y, z)`
  show ((positionOf2 w (indexOf2 w (x, indexOf2 h (y, z)))).1,
    positionOf2 h (positionOf2 w (indexOf2 w (x, indexOf2 h (y, z)))).2) = _
  rw [position_index_2d w x _ hx, position_index_2d h y z hy]

/-- Every memory index of a 2-D grid is a cell of the grid box. -/
theorem cell_inBox2 (w h i : Nat) (hw : 0 < w) (hi : i < w * h) :
    InBox 2 (wholeGrid (vec2 (w, h))) (vec2 (positionOf2 w i)) := by
  obtain ⟨a, b⟩ := positionOf2_lt w h i hw hi
  intro c hc
  refine ⟨Nat.zero_le _, (Nat.zero_add _).symm ▸ ?_⟩
  match c, hc with
  | 0, _ => exact a
  | 1, _ => exact b

/-- Every memory index of a 3-D grid is a cell of the grid box. -/
theorem cell_inBox3 (w h d i : Nat) (hw : 0 < w) (hh : 0 < h) (hi : i < w * h * d) :
    InBox 3 (wholeGrid (vec3 (w, h, d))) (vec3 (positionOf3 w h i)) := by
  obtain ⟨a, b, c'⟩ := positionOf3_lt w h d i hw hh hi
  intro c hc
  refine ⟨Nat.zero_le _, (Nat.zero_add _).symm ▸ ?_⟩
  match c, hc with
  | 0, _ => exact a
  | 1, _ => exact b
  | 2, _ => exact c'

/-- What a `Bisect` tree means for the ids: depth `≤ n`; for every cell of the
box the id is `< 2^n`, the cell lies in its leaf box, leaf boxes are sub-boxes,
and another cell of the box has the same id iff it lies in the same leaf box –
i.e. each part is one axis-aligned box, cut out by comparisons
`pos[axis] < position` along the path, the axes advancing cyclically. -/
theorem boxes {D : Nat} {P : SubGrid → Nat → Nat → Prop} {n : Nat} {t : Tree} {sg : SubGrid} {c : Nat}
    (h : Bisect D P n t sg c) (hc : c < D) :
    t.depth ≤ n ∧
    ∀ pos, InBox D sg pos →
      partOf D t pos c < 2 ^ n ∧
      InBox D (leafBox D t sg c pos) pos ∧
      (∀ q, InBox D (leafBox D t sg c pos) q → InBox D sg q) ∧
      ∀ pos', InBox D sg pos' →
        (partOf D t pos c = partOf D t pos' c ↔ InBox D (leafBox D t sg c pos) pos') := by
  exact ⟨h.depth_le, fun pos hin => ⟨partOf_lt h pos, leafBox_inBox h pos hin,
    fun q hq => leafBox_sub h pos q hq, fun pos' hin' => partOfAux_eq_iff h hc pos pos' hin hin' 0⟩⟩

/-- `Grid::<2>::rcb`: the ids are `part_of` through a recursive bisection of the
grid of depth at most `iter_count`, axes cyclic starting at coordinate 1, every
cut inside its box (`split_at` consistent).  Any thread count, any weights, any
thresholds. -/
theorem rcb2_struct (T : Nat) (bracket : Int → Option (Int × Int)) (w h : Nat) (ws : Array Int)
    (plen iter : Nat) (ids : List Nat) (hsz : w * h ≤ ws.size)
    (hr : rcb2 {} T bracket w h ws plen iter = .ok ids) :
    ∃ t, Bisect 2 (fun _ _ _ => True) iter t (wholeGrid (vec2 (w, h))) 1 ∧
      ids = (List.range plen).map fun i => partOf 2 t (vec2 (positionOf2 w i)) 1 := by
  obtain ⟨t, ht, hids⟩ := rcb2_unfold _ _ _ _ _ _ _ _ _ hr
  exact ⟨t, recurse_struct { D := 2, T, bracket, aw := axisWeights2 w ws } _ _ (awSpec2 w h ws hsz)
    (by simp) (by simp) iter _ _ 1 t (by simp) (inGrid_whole _ _) ht, hids⟩

/-- `Grid::<3>::rcb`: same. -/
theorem rcb3_struct (T : Nat) (bracket : Int → Option (Int × Int)) (w h d : Nat) (ws : Array Int)
    (plen iter : Nat) (ids : List Nat) (hsz : w * h * d ≤ ws.size)
    (hr : rcb3 {} T bracket w h d ws plen iter = .ok ids) :
    ∃ t, Bisect 3 (fun _ _ _ => True) iter t (wholeGrid (vec3 (w, h, d))) 1 ∧
      ids = (List.range plen).map fun i => partOf 3 t (vec3 (positionOf3 w h i)) 1 := by
  obtain ⟨t, ht, hids⟩ := rcb3_unfold _ _ _ _ _ _ _ _ _ _ hr
  exact ⟨t, recurse_struct { D := 3, T, bracket, aw := axisWeights3 w h ws } _ _ (awSpec3 w h d ws hsz)
    (by simp) (by simp) iter _ _ 1 t (by simp) (inGrid_whole _ _) ht, hids⟩

/-- Ids are below `2^iter_count` (every entry written, in the grid or not). -/
theorem grid_ids_lt (T : Nat) (bracket : Int → Option (Int × Int)) (w h : Nat) (ws : Array Int)
    (plen iter : Nat) (ids : List Nat) (hsz : w * h ≤ ws.size)
    (hr : rcb2 {} T bracket w h ws plen iter = .ok ids) : ∀ id ∈ ids, id < 2 ^ iter := by
  obtain ⟨t, hb, rfl⟩ := rcb2_struct T bracket w h ws plen iter ids hsz hr
  exact partOf_map_lt hb _ _

theorem grid_ids_lt_3d (T : Nat) (bracket : Int → Option (Int × Int)) (w h d : Nat) (ws : Array Int)
    (plen iter : Nat) (ids : List Nat) (hsz : w * h * d ≤ ws.size)
    (hr : rcb3 {} T bracket w h d ws plen iter = .ok ids) : ∀ id ∈ ids, id < 2 ^ iter := by
  obtain ⟨t, hb, rfl⟩ := rcb3_struct T bracket w h d ws plen iter ids hsz hr
  exact partOf_map_lt hb _ _

/-- No abort, no hang (2-D): with the weight array covering the grid and a
bracket supplied for every total, `Grid::rcb` returns `plen` ids – for every
thread count, every `iter_count` (also beyond `log2` of the size: empty and
one-slab sub-grids), every weights (zero totals included).  No index is out of
bounds, `split_at`'s subtractions do not go below zero, the search terminates. -/
theorem rcb_total (T : Nat) (bracket : Int → Option (Int × Int)) (w h : Nat) (ws : Array Int)
    (plen iter : Nat) (hsz : w * h ≤ ws.size) (hbr : ∀ t, ∃ a b, bracket t = some (a, b)) :
    ∃ ids, rcb2 {} T bracket w h ws plen iter = .ok ids ∧ ids.length = plen := by
  obtain ⟨t, ht⟩ := recurse_returns { D := 2, T, bracket, aw := axisWeights2 w ws } _ _
    (awSpec2 w h ws hsz) (by simp) (Nat.le_max_left _ _) hbr
    iter (wholeGrid (vec2 (w, h))) ws.toList.sum 1 (by simp) (inGrid_whole _ _)
  refine ⟨(List.range plen).map fun i => partOf 2 t (vec2 (positionOf2 w i)) 1, ?_, by simp⟩
  simp only [rcb2, ht]

/-- No abort, no hang (3-D). -/
theorem rcb_total_3d (T : Nat) (bracket : Int → Option (Int × Int)) (w h d : Nat) (ws : Array Int)
    (plen iter : Nat) (hsz : w * h * d ≤ ws.size) (hbr : ∀ t, ∃ a b, bracket t = some (a, b)) :
    ∃ ids, rcb3 {} T bracket w h d ws plen iter = .ok ids ∧ ids.length = plen := by
  obtain ⟨t, ht⟩ := recurse_returns { D := 3, T, bracket, aw := axisWeights3 w h ws } _ _
    (awSpec3 w h d ws hsz) (by simp) (Nat.le_max_left _ _) hbr
    iter (wholeGrid (vec3 (w, h, d))) ws.toList.sum 1 (by simp) (inGrid_whole _ _)
  refine ⟨(List.range plen).map fun i => partOf 3 t (vec3 (positionOf3 w h i)) 1, ?_, by simp⟩
  simp only [rcb3, ht]

/-- Balance of every bisection (2-D): with non-negative weights covering exactly
the grid and thresholds meeting `Bracket`, the split tree is a `Bisect` whose
every cut satisfies `NodeBalAt` for the true weights of the boxes
(`boxWeight2`): the low side weighs within 1 % of half of the box (plus one
unit), or the cut is at the low edge of the slab containing the half-weight mark. -/
theorem rcb_balanced (T : Nat) (bracket : Int → Option (Int × Int)) (w h : Nat) (ws : Array Int)
    (plen iter : Nat) (ids : List Nat) (hsz : ws.size = w * h) (hnn : ∀ x ∈ ws.toList, 0 ≤ x)
    (hB : ∀ t a b, bracket t = some (a, b) → Bracket t a b)
    (hr : rcb2 {} T bracket w h ws plen iter = .ok ids) :
    ∃ t, Bisect 2 (NodeBalAt (boxWeight2 w ws)) iter t (wholeGrid (vec2 (w, h))) 1 ∧
      ids = (List.range plen).map fun i => partOf 2 t (vec2 (positionOf2 w i)) 1 := by
  obtain ⟨t, ht, hids⟩ := rcb2_unfold _ _ _ _ _ _ _ _ _ hr
  exact ⟨t, recurse_balanced { D := 2, T, bracket, aw := axisWeights2 w ws } _ _
    (awSpec2 w h ws (Nat.le_of_eq hsz.symm)) (by simp) (by simp) hB (boxWeight2_nonneg w ws hnn)
    iter _ _ 1 t (by simp) (inGrid_whole _ _) (boxWeight2_whole w h ws hsz).symm ht, hids⟩

/-- Balance of every bisection (3-D). -/
theorem rcb_balanced_3d (T : Nat) (bracket : Int → Option (Int × Int)) (w h d : Nat) (ws : Array Int)
    (plen iter : Nat) (ids : List Nat) (hsz : ws.size = w * h * d) (hnn : ∀ x ∈ ws.toList, 0 ≤ x)
    (hB : ∀ t a b, bracket t = some (a, b) → Bracket t a b)
    (hr : rcb3 {} T bracket w h d ws plen iter = .ok ids) :
    ∃ t, Bisect 3 (NodeBalAt (boxWeight3 w h ws)) iter t (wholeGrid (vec3 (w, h, d))) 1 ∧
      ids = (List.range plen).map fun i => partOf 3 t (vec3 (positionOf3 w h i)) 1 := by
  obtain ⟨t, ht, hids⟩ := rcb3_unfold _ _ _ _ _ _ _ _ _ _ hr
  exact ⟨t, recurse_balanced { D := 3, T, bracket, aw := axisWeights3 w h ws } _ _
    (awSpec3 w h d ws (Nat.le_of_eq hsz.symm)) (by simp) (by simp) hB (boxWeight3_nonneg w h ws hnn)
    iter _ _ 1 t (by simp) (inGrid_whole _ _) (boxWeight3_whole w h d ws hsz).symm ht, hids⟩

/-- An exact-integer bracket (floors of `0.99·t/2`, `1.01·t/2`): meets `Bracket` for `t ≥ 0`. -/
def intBracket (t : Int) : Option (Int × Int) := some (99 * t / 200, 101 * t / 200)

example (t : Int) (ht : 0 ≤ t) : Bracket t (99 * t / 200) (101 * t / 200) := by
  simp only [Bracket]; omega

-- the D4 witness grid (4×4, unit weights, 2 iterations, one thread) on the repaired model
example : rcb2 {} 1 intBracket 4 4 #[1,1,1,1,1,1,1,1,1,1,1,1,1,1,1,1] 16 2 =
    .ok [0,0,1,1,0,0,1,1,2,2,3,3,2,2,3,3] := by decide +kernel
-- a skewed 3×2 grid: the heavy cell forces a cut "adjacent to the slab with the half mark"
example : rcb2 {} 3 intBracket 3 2 #[1,0,9,0,2,0] 6 2 = .ok [2,2,3,2,2,3] := by decide +kernel
example : weightedMedian {} 3 [10, 2] 5 6 = .ok (0, 0) := by decide
example : Bracket 12 5 6 := by decide
-- zero total, 1×1 grid, iter_count beyond log2(size): nothing aborts
example : rcb2 {} 1 intBracket 1 1 #[0] 1 3 = .ok [7] := by decide +kernel
example : rcb3 {} 2 intBracket 2 1 1 #[1, 1] 2 6 = .ok [63, 63] := by decide +kernel
example : rcb3 {} 2 intBracket 2 2 2 #[1,2,3,4,5,6,7,8] 8 3 = .ok [0,1,4,5,2,3,6,7] := by decide +kernel

end Coupe.GridRcb

#print axioms Coupe.GridRcb.median_terminates
#print axioms Coupe.GridRcb.median_prefix
#print axioms Coupe.GridRcb.median_balanced
#print axioms Coupe.GridRcb.median_half_mark
#print axioms Coupe.GridRcb.median_hangs_T1
#print axioms Coupe.GridRcb.median_hangs_T1_before_fix
#print axioms Coupe.GridRcb.rcb_hangs_T1_before_fix
#print axioms Coupe.GridRcb.median_T1_after_fix
#print axioms Coupe.GridRcb.index_position_2d
#print axioms Coupe.GridRcb.position_index_2d
#print axioms Coupe.GridRcb.index_position_3d
#print axioms Coupe.GridRcb.position_index_3d
#print axioms Coupe.GridRcb.cell_inBox2
#print axioms Coupe.GridRcb.cell_inBox3
#print axioms Coupe.GridRcb.boxes
#print axioms Coupe.GridRcb.rcb2_struct
#print axioms Coupe.GridRcb.rcb3_struct
#print axioms Coupe.GridRcb.grid_ids_lt
#print axioms Coupe.GridRcb.grid_ids_lt_3d
#print axioms Coupe.GridRcb.rcb_total
#print axioms Coupe.GridRcb.rcb_total_3d
#print axioms Coupe.GridRcb.rcb_balanced
#print axioms Coupe.GridRcb.rcb_balanced_3d
