import CoupeModel.Model.Basic
import CoupeModel.Model.Codec
import CoupeModel.Proofs.Codec
import CoupeModel.Proofs.CodecMedit
import CoupeModel.Proofs.CodecAscii

/-!
# C19 — partition, weight and MEDIT mesh files round-trip losslessly

Property theorems only (lemmas: `Proofs/Codec*.lean`).  Bytes are `Nat`s, `f64`s
are 64-bit patterns, `i64`/`isize` are `Int`s in range (`InI64`).  Every theorem
is writer → reader (the readers accept more than the writers produce: trailing
bytes, other MEDIT versions/endianness, junk tokens).  The size hypotheses
`… < 2^60` (1152921504606846976) are the Rust `Vec` invariant (an allocation
holds at most `isize::MAX` bytes); the readers' `Vec::with_capacity` panics
beyond them and the model says so (`Err.capOverflow`).
-/

namespace Coupe.Codec

/-- `u64::from_le_bytes(u64::to_le_bytes(n)) = n`. -/
theorem le64_roundtrip (n : Nat) (h : n < 2 ^ 64) : fromLE (toLE 8 n) = n :=
  fromLE_toLE 8 n h

/-- the 16-bit criterion count field. -/
theorem le16_roundtrip (n : Nat) (h : n < 2 ^ 16) : fromLE (toLE 2 n) = n :=
  fromLE_toLE 2 n h

/-- `i64 → u64 → bytes → u64 → i64` is the identity on the `i64` range. -/
theorem i64_roundtrip (i : Int) (h : InI64 i) : toI64 (fromLE (encI64 i)) = i := by
  unfold encI64
  rw [fromLE_toLE 8 _ (ofI64_lt i), toI64_ofI64 i h.1 h.2]

/-- Writing then reading a partition file gives the ids back. -/
theorem partition_roundtrip (ids : List Nat) (hid : ∀ i ∈ ids, i < 2 ^ 64)
    (hlen : ids.length < 2 ^ 60) :
    decodePartition (encodePartition ids) = .ok ids := by
  rw [← List.append_nil (encodePartition ids)]
  exact decode_encodePartition ids [] hid hlen

/-- The reader rejects exactly as modelled: short input, wrong magic, and a
count that promises more ids than there are bytes. -/
theorem partition_rejects (b : List Nat) :
    (b.length < 4 → decodePartition b = .error .eof) ∧
    (4 ≤ b.length → b.take 4 ≠ magicMePe → decodePartition b = .error .badHeader) ∧
    (∀ (n : Nat) (body : List Nat), b = magicMePe ++ toLE 8 n ++ body → n < 2 ^ 60 →
      body.length < 8 * n → decodePartition b = .error .eof) := by
  refine ⟨fun h => ?_, fun h1 h2 => ?_, fun n body hb hn hl => ?_⟩
  · simp [decodePartition, readN, Nat.not_le.mpr h]
  · simp [decodePartition, readN, h1, h2]
  · rw [hb, decodePartition_header n body hn]
    exact readU64s_short n body hl

example : decodePartition (encodePartition [0, 5, 18446744073709551615]) =
    .ok [0, 5, 18446744073709551615] := rfl
example : decodePartition (encodePartition []) = .ok [] := rfl

/-- a weight array with `c` criteria: non-empty, rows of uniform width `c`,
values in the range of their Rust type. -/
def GoodW (c : Nat) : WArray → Prop
  | .ints rows => rows ≠ [] ∧ rows.length < 2 ^ 58 ∧ ∀ r ∈ rows, r.length = c ∧ ∀ x ∈ r, InI64 x
  | .floats rows => rows ≠ [] ∧ rows.length < 2 ^ 58 ∧ ∀ r ∈ rows, r.length = c ∧ ∀ x ∈ r, x < 2 ^ 64

/-- Writing then reading a weight file with `1 ≤ c ≤ 65535` criteria gives back
the same kind (integer/float) and bit-identical values – every `f64` pattern,
NaN payloads included. -/
theorem weights_roundtrip (a : WArray) (c : Nat) (hc1 : 1 ≤ c) (hc2 : c ≤ 65535)
    (h : GoodW c a) :
    ∃ b, encodeWeights a = .ok b ∧ decodeWeights b = .ok a := by
  cases a with
  | ints rows =>
    obtain ⟨hne, hlen, hr⟩ := h
    have hback : (rows.map (·.map ofI64)).map (·.map toI64) = rows := by
      rw [List.map_map]
      exact (List.map_congr_left fun r hr' => map_toI64_ofI64 r (hr r hr').2).trans
        (List.map_id rows)
    obtain ⟨b, h1, h2⟩ := decode_encodeRows 1 (rows.map (·.map ofI64)) c
      (mt List.map_eq_nil_iff.mp hne) hc1 hc2
      (by rw [List.length_map]; omega)
      (List.forall_mem_map.mpr fun r hr' =>
        ⟨(List.length_map _).trans (hr r hr').1, List.forall_mem_map.mpr fun x _ => ofI64_lt x⟩)
    exact ⟨b, h1, by rw [h2, if_pos rfl, hback]⟩
  | floats rows =>
    obtain ⟨hne, hlen, hr⟩ := h
    exact decode_encodeRows 0 rows c hne hc1 hc2 (by omega) hr

/-- What the code does outside the quantified range (stated, not hidden):
the empty *integer* array round-trips; the empty *float* array is written with a
criterion count of 0 and reads back as the empty **integer** array (the type
tag is lost, the data – none – is not); an array of `n > 0` zero-width rows
(0 criteria) reads back as the empty integer array (the row count is lost). -/
theorem weights_empty_note :
    (∃ b, encodeWeights (.ints []) = .ok b ∧ decodeWeights b = .ok (.ints [])) ∧
    (∃ b, encodeWeights (.floats []) = .ok b ∧ decodeWeights b = .ok (.ints [])) ∧
    (∀ (rows : List (List Nat)), (∀ r ∈ rows, r = []) →
      ∃ b, encodeWeights (.floats rows) = .ok b ∧ decodeWeights b = .ok (.ints [])) := by
  refine ⟨⟨_, rfl, rfl⟩, ⟨_, rfl, rfl⟩, fun rows h => ?_⟩
  cases rows with
  | nil => exact ⟨_, rfl, rfl⟩
  | cons r rs =>
    cases h r List.mem_cons_self
    exact ⟨_, rfl, rfl⟩

/-- The writer's `assert!` fires exactly above the 16-bit field (defect D2 was
an assert at 4; fixed by 4a7b101). -/
theorem weights_writer_assert (flag : Nat) (first : List Nat) (rest : List (List Nat)) :
    (encodeRows flag (first :: rest) = .error .tooManyCriteria) ↔ 65535 < first.length := by
  simp only [encodeRows]
  split <;> simp_all

/-- The reader rejects exactly as modelled. -/
theorem weights_rejects (b : List Nat) :
    (b.length < 8 → 4 ≤ b.length → b.take 4 = magicMeWe → decodeWeights b = .error .eof) ∧
    (4 ≤ b.length → b.take 4 ≠ magicMeWe → decodeWeights b = .error .badHeader) ∧
    (∀ v f c0 c1 rest, b = magicMeWe ++ [v, f, c0, c1] ++ rest → v ≠ 1 →
      decodeWeights b = .error .unsupportedVersion) := by
  refine ⟨fun h1 h2 h3 => ?_, fun h1 h2 => ?_, fun v f c0 c1 rest hb hv => ?_⟩
  · have hd : ¬ 4 ≤ b.length - 4 := by omega
    simp [decodeWeights, readN, h2, h3, hd]
  · simp [decodeWeights, readN, h1, h2]
  · subst hb
    simp [decodeWeights, magicMeWe, readN_cons4, hv]

example : GoodW 2 (.floats [[0x7ff8000000000001, 0x8000000000000000], [1, 0xfff0000000000000]]) := by
  refine ⟨by decide, by decide, ?_⟩; decide
example : GoodW 1 (.ints [[-9223372036854775808], [9223372036854775807]]) := by
  refine ⟨by decide, by decide, ?_⟩; decide

/-- Writing a mesh with `serialize_medit_binary` and reading it with
`parse_binary` gives the same dimension, bit-identical coordinates, the same
references and the same element blocks in the same order.  `GoodMesh`: what
`Mesh::from_raw_parts` asserts, block types within the property's quantifier
(edge, triangle, quadrilateral, tetrahedron, hexahedron), node indices below
`i64::MAX`, `1 ≤ dim < 2^31`. -/
theorem meditbin_roundtrip (m : Mesh) (g : GoodMesh m) :
    decodeMeditBin (encodeMeditBin m) = .ok m := by
  have hfuel := encBlocks_length (24 + 8 * m.nodeRefs.length * (m.dim + 1) + 20) m.topo
    fun b hb => (g.blocks b hb).ty.ne_vertex
  rw [encodeMeditBin]
  simp only [List.append_assoc]
  rw [decodeMeditBin_header m.dim g.dim2,
    binLoop_vertices _ _ m g,
    binLoop_encBlocks m.topo _ _ _ (by simp only [List.length_append, toLE_length]; omega) g.blocks]
  rfl

/-- Outside the quantifier: a `Quadrangle` block is written with code 7 and
read back as `Quadrilateral`; a `Vertex` block is not written at all. -/
theorem meditbin_quadrangle_note :
    decodeMeditBin (encodeMeditBin ⟨2, [], [], [⟨.quadrangle, [0, 1, 2, 3], [7]⟩]⟩)
      = .ok ⟨2, [], [], [⟨.quadrilateral, [0, 1, 2, 3], [7]⟩]⟩ ∧
    decodeMeditBin (encodeMeditBin ⟨2, [], [], [⟨.vertex, [0], [7]⟩]⟩) = .ok ⟨2, [], [], []⟩ := by
  simp only [eq_ok_iff_toOption]
  decide +kernel

example : GoodMesh sampleMesh := by
  refine ⟨by decide, by decide, by decide, by decide, by decide, by decide, ?_⟩
  intro b hb
  simp only [sampleMesh, List.mem_cons, List.not_mem_nil, or_false] at hb
  rcases hb with rfl | rfl | rfl | rfl <;>
    exact ⟨by simp [Quantified], by decide, by decide, by decide, by decide⟩

/-- Writing a mesh with `display_medit_ascii` and parsing the resulting lines of
tokens with `parse_ascii` gives the same mesh, for every number syntax that
satisfies Rust's `parse(display(x)) = x` contract (`NumFmtOK`, trusted).
`GoodMeshA`: as above but any block type except `Vertex`, node indices below
`usize::MAX`, finite coordinates, any `dim ≥ 1`. -/
theorem meditascii_roundtrip_tokens (F : NumFmt) (ok : NumFmtOK F) (m : Mesh) (g : GoodMeshA m) :
    parseTokens F (writeTokens F m) = .ok m := by
  have hfuel := tokCount_blockLines F m.topo fun b hb => (g.blocks b hb).ty
  rw [writeTokens, parseTokens_header F ok m.dim g.dim2, asciiLoop_skip, asciiLoop_skip,
    List.append_assoc,
    asciiLoop_vertices F ok _ m g,
    asciiLoop_blocks F ok m.topo _ _
      (by simp only [tokCount_cons, tokCount_append, List.length_cons, List.length_nil]; omega)
      g.blocks]
  rfl

/-- Non-vacuity: a number syntax meeting the contract exists (one symbol per
number), and the sample mesh meets `GoodMeshA`. -/
def toyFmt : NumFmt where
  showU n := [n]
  showI i := [ofI64 i]
  showF x := [x]
  parseUT s := s.head?
  parseU s := s.head?
  parseI s := s.head?.map toI64
  parseF s := s.head?

example : NumFmtOK toyFmt :=
  ⟨fun _ _ => rfl, fun _ _ => rfl,
   fun i h => by simp [toyFmt, toI64_ofI64 i h.1 h.2], fun _ _ => rfl, ⟨50, rfl⟩⟩

example : GoodMeshA sampleMesh := by
  refine ⟨by decide, by decide, by decide, by decide, by decide, by decide, ?_⟩
  intro b hb
  simp only [sampleMesh, List.mem_cons, List.not_mem_nil, or_false] at hb
  rcases hb with rfl | rfl | rfl | rfl <;>
    exact ⟨by decide, by decide, by decide, by decide, by decide⟩

/-- `Mesh::from_reader` sends the binary writer's output to `parse_binary`
(it starts `01 00 00 00`) and any ASCII text that starts with the writer's
`MeshVersionFormatted 2\nDimension ` to `parse_ascii`. -/
theorem sniff_correct :
    (∀ m : Mesh, sniff (encodeMeditBin m) = .binary) ∧
    (∀ rest : List Nat, (∀ x ∈ rest, x < 128) → sniff (mvfHeader ++ rest) = .ascii) ∧
    (∀ (F : NumFmt) (m : Mesh), ∃ rest, writeText F m = mvfHeader ++ rest) := by
  refine ⟨fun m => if_pos (.inl rfl), fun rest h => ?_, fun F m => ⟨_, rfl⟩⟩
  have h4 : (mvfHeader ++ rest).take 4 = [77, 101, 115, 104] := rfl
  have hany : (mvfHeader ++ rest).any (fun x => decide (x ≥ 128)) = false := by
    rw [List.any_append, Bool.or_eq_false_iff]
    exact ⟨by decide, List.any_eq_false.mpr fun x hx => by simpa using h x hx⟩
  have hkw : (((mvfHeader ++ rest).dropWhile isWs).take 20).map asciiLower = kwMVF := rfl
  rw [sniff, h4, if_neg (by decide), hany, if_neg Bool.false_ne_true, hkw, if_pos rfl]

end Coupe.Codec

#print axioms Coupe.Codec.le64_roundtrip
#print axioms Coupe.Codec.le16_roundtrip
#print axioms Coupe.Codec.i64_roundtrip
#print axioms Coupe.Codec.partition_roundtrip
#print axioms Coupe.Codec.partition_rejects
#print axioms Coupe.Codec.weights_roundtrip
#print axioms Coupe.Codec.weights_empty_note
#print axioms Coupe.Codec.weights_writer_assert
#print axioms Coupe.Codec.weights_rejects
#print axioms Coupe.Codec.meditbin_roundtrip
#print axioms Coupe.Codec.meditbin_quadrangle_note
#print axioms Coupe.Codec.meditascii_roundtrip_tokens
#print axioms Coupe.Codec.sniff_correct
