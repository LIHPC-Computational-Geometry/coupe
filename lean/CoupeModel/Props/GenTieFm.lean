import CoupeModel.Gen.IntFns
import CoupeModel.Model.Fm

/-!
# GenTieFm — FiducciaMattheyses' candidate test and move bookkeeping regenerated from the source

`tools/extract_intfns.py` (`_gen_fm`) regenerates on every run, from
`src/algorithms/fiduccia_mattheyses.rs`, into `Gen/IntFns.lean` (rendered for an UNSIGNED weight
type: a checked `-` that would go below zero is `none`, the overflow panic):

* `fm_candidate initial_part weight pw_target max_part_weight` – `let target_part = 1 - initial_part`,
  `let target_part_weight = part_weights[target_part] + weight`, and the test in front of
  `return None` of the `filter_map` closure of the move selection: `(target_part, kept?, key)`;
* `fm_move_weights initial_part pw_initial pw_target weight` – `target_part` and the two updates
  `part_weights[initial_part] -= w; part_weights[target_part] += w` of a performed move.

The iterator chain (`filter_map` … `min_by` with `crate::partial_cmp` on the returned key) is locked
as text by the translator.  The theorems tie the hand-written model (`targetW`, `freeAdm`,
`applyMove` of `Model/Fm.lean`, over `Int`) to these definitions.  The seeded changes C02-r3-2,
C07-r3-1 and C07-r4-1 rewrite exactly this test; each breaks a theorem here.
-/

namespace Coupe.GenTieFm
open Coupe.Gen.IntFns

/-- For a two-way partition (`initial_part ≤ 1`, what `BiPartitioningOnly` guarantees) the
generated candidate computation does not panic, the target part is the other part, the key is the
model's `targetW` and the candidate is kept exactly when the model's `freeAdm` keeps it
(`¬ cap < targetW`). -/
theorem candidate_tie (ip weight pwTarget cap : Nat) (hip : ip ≤ 1) :
    ∃ kept, fm_candidate ip weight pwTarget cap = some (1 - ip, kept, pwTarget + weight) ∧
      (kept = 1 ∨ kept = 0) ∧
      (kept = 1 ↔ ¬ ((cap : Int) < (pwTarget : Int) + (weight : Int))) := by
  unfold fm_candidate csub
  by_cases h : cap < pwTarget + weight
  · exact ⟨0, by simp [hip, h], Or.inr rfl, by omega⟩
  · exact ⟨1, by simp [hip, h], Or.inl rfl, by omega⟩

/-- A part id above 1 makes `1 - initial_part` panic in the generated code: the two-way guard is
what keeps it away. -/
theorem candidate_panics_above_one (ip weight pwTarget cap : Nat) (hip : 1 < ip) :
    fm_candidate ip weight pwTarget cap = none := by
  unfold fm_candidate csub
  have : ¬ ip ≤ 1 := by omega
  simp [this]

/-- The generated updates of a move are the model's (`applyMove`: the part left loses `w`, the
other gains it); the subtraction is defined exactly when the part left weighs at least `w` — true
for the real loads, of which `w` is a summand. -/
theorem move_weights_tie (ip pwInitial pwTarget weight : Nat) (hip : ip ≤ 1) :
    (weight ≤ pwInitial →
      fm_move_weights ip pwInitial pwTarget weight = some (1 - ip, pwInitial - weight, pwTarget + weight)) ∧
    (pwInitial < weight → fm_move_weights ip pwInitial pwTarget weight = none) := by
  unfold fm_move_weights csub
  constructor <;> intro h
  · simp [hip, h]
  · have : ¬ weight ≤ pwInitial := by omega
    simp [hip, this]

/-- The model's key: `targetW` is the weight of the OTHER part plus the vertex weight, the
quantity `fm_candidate` returns as its third component. -/
theorem model_targetW (ws : List Int) (st : Coupe.Fm.PassSt) (v : Nat) (h01 : Coupe.Fm.partOf st.part v ≤ 1) :
    Coupe.Fm.targetW ws st v =
      (if Coupe.Fm.partOf st.part v = 0 then st.pw1 else st.pw0) + Coupe.Fm.wOf ws v := by
  unfold Coupe.Fm.targetW
  have : Coupe.Fm.partOf st.part v = 0 ∨ Coupe.Fm.partOf st.part v = 1 := by omega
  rcases this with h | h <;> simp [h]

example : fm_candidate 0 3 4 7 = some (1, 1, 7) ∧ fm_candidate 1 3 5 7 = some (0, 0, 8) ∧
    fm_candidate 2 3 5 7 = none ∧ fm_move_weights 0 5 2 3 = some (1, 2, 5) ∧
    fm_move_weights 1 2 2 3 = none := by decide

end Coupe.GenTieFm

#print axioms Coupe.GenTieFm.candidate_tie
#print axioms Coupe.GenTieFm.candidate_panics_above_one
#print axioms Coupe.GenTieFm.move_weights_tie
#print axioms Coupe.GenTieFm.model_targetW
