import CoupeModel.Model.Kl
import CoupeModel.Proofs.Kl

/-!
# C15 — KernighanLin never increases the cut and preserves part sizes

Property theorems only (helper lemmas live in `Proofs/Kl.lean`).

`run {} g wlen mp mf mb p` is the model of `KernighanLin { max_passes := mp,
max_flips_per_pass := mf, max_bad_move_in_a_row := mb, .. }.partition(p, (g, weights))`
with `wlen = weights.len()`; `{}` selects the code as it is now (D8 a/b/c repaired).

Generality: `kl_sizes`, `kl_ids` and `kl_cut_le` hold for EVERY adjacency
structure (asymmetric, unsorted rows, negative or zero weights, self loops,
any `wlen`) and every value of the three limits, because the code compares cuts
it recomputes with the very function `edgeCut` the theorem is about, and only
ever swaps two in-range entries.  `edgeCut` is the `sprs` specialisation of
`Topology::edge_cut` (each stored entry `(v, j)`, `j < v`, once: for a symmetric
matrix every undirected cut edge once); that it is *the* edge cut of a symmetric
graph is C16 (`edgecut_sprs_eq_generic`, `edgecut_def`).
`kl_total` needs a well-formed graph (`WF`: one row per vertex, neighbours in
range – what a square `CsMatView` of the right size guarantees) and a two-way
partition with both parts non-empty (`TwoWay`); symmetry and positivity are not
needed there either.
-/

namespace Coupe.Kl

/-- Part sizes: the output is a permutation of the input labels, so every part
(every label `a`, not only the two that occur) keeps exactly its number of vertices. -/
theorem kl_sizes (g : Graph) (wlen : Nat) (mp mf : Option Nat) (mb : Nat) (p out : List Nat)
    (h : run {} g wlen mp mf mb p = .ok out) :
    out.Perm p ∧ ∀ a, out.count a = p.count a :=
  have hperm := (run_spec g wlen mp mf mb p out h).1
  ⟨hperm, fun a => hperm.count_eq a⟩

/-- Ids: the length is preserved and exactly the input's labels occur. -/
theorem kl_ids (g : Graph) (wlen : Nat) (mp mf : Option Nat) (mb : Nat) (p out : List Nat)
    (h : run {} g wlen mp mf mb p = .ok out) :
    out.length = p.length ∧ ∀ x, x ∈ out ↔ x ∈ p := by
  have hperm := (kl_sizes g wlen mp mf mb p out h).1
  exact ⟨hperm.length_eq, fun x => hperm.mem_iff⟩

/-- The edge cut of the output is not larger than the edge cut of the input. -/
theorem kl_cut_le (g : Graph) (wlen : Nat) (mp mf : Option Nat) (mb : Nat) (p out : List Nat)
    (h : run {} g wlen mp mf mb p = .ok out) :
    edgeCut g out ≤ edgeCut g p :=
  (run_spec g wlen mp mf mb p out h).2

/-- Totality: on a well-formed graph and a two-way partition with both parts
non-empty no panic site is reached (the two `max_by`, the `min_by`, slice
indexing, `unimplemented!()`) whatever the limits are (`Some 0` included), and
the outer loop terminates: every pass that does not `break` lowers the integer
cut, which is bounded below by `-absSum g`, so `passFuel g cut =
(cut + absSum g).toNat + 1` passes suffice (`Panic.fuel` is not returned). -/
theorem kl_total (g : Graph) (wlen : Nat) (mp mf : Option Nat) (mb : Nat) (p : List Nat)
    (hwf : WF g p.length) (h2 : TwoWay p) :
    ∃ out, run {} g wlen mp mf mb p = .ok out := by
  obtain ⟨a, b, hu, -⟩ := uniqueIds_two h2
  simp only [run, hu]
  rw [if_neg (by rw [hwf.1]; omega)]
  exact passes_ok g wlen a b mb mp mf _ 0 p _ hwf rfl (by unfold passFuel; omega)

/-- Outside the quantifier: anything but exactly two distinct labels is
`unimplemented!()`. -/
theorem kl_unimplemented (cfg : Cfg) (g : Graph) (wlen : Nat) (mp mf : Option Nat) (mb : Nat)
    (p : List Nat) (h : (uniqueIds p).length ≠ 2) :
    run cfg g wlen mp mf mb p = .panic .notImplemented := by
  simp only [run]
  split
  · next hu => rw [hu] at h; simp at h
  · rfl

/-- path 0 - 1 - … - (n-1), unit weights, symmetric CSR -/
def pathGraph (n : Nat) : Graph :=
  (List.range n).map (fun i =>
    (if 0 < i then [(i - 1, (1 : Int))] else []) ++ (if i + 1 < n then [(i + 1, 1)] else []))

/-- Regression witness D8a (fixed by 6898ce0): parts of sizes 2 and 5, `n/2 = 3`
flips attempted – the pre-fix `max_by(..).unwrap()` aborts on the third; the
repaired code ends the pass. -/
theorem kl_d8a_counterexample :
    run { oldUnwrapSide := true } (pathGraph 7) 7 none none 1 [0,1,1,1,1,1,0] = .panic .unwrapNone ∧
    run {} (pathGraph 7) 7 none none 1 [0,1,1,1,1,1,0] = .ok [0,0,1,1,1,1,1] := by
  decide +kernel

/-- Regression witness D8b (fixed by f09dabc): `max_flips_per_pass = Some(0)`
leaves `cut_saves` empty – the pre-fix `min_by(..).unwrap()` aborts; so does a
pass that stops at its first candidate (`max_bad_move_in_a_row = 0`, no gain). -/
theorem kl_d8b_counterexample :
    run { oldUnwrapEmpty := true } (pathGraph 3) 3 none (some 0) 1 [0,1,1] = .panic .unwrapNone ∧
    run { oldUnwrapEmpty := true } (pathGraph 3) 3 none none 0 [0,1,1] = .panic .unwrapNone ∧
    run {} (pathGraph 3) 3 none (some 0) 1 [0,1,1] = .ok [0,1,1] ∧
    run {} (pathGraph 3) 3 none none 0 [0,1,1] = .ok [0,1,1] := by
  decide +kernel

/-- Regression witness D8c (fixed by 38ac21d): on the path 0-1-2 with ids
`[1,1,0]` the only swap of the pass is bad; the pre-fix code kept it
(`[1,0,1]`, cut 1 → 2, i.e. 2 → 4 counting both directions); the repaired code
undoes the pass.  (DESIGN §5 prints the input of this witness as `[0,1,1]`; on
the real pre-fix code and on this model that input gives `[1,1,0]`, cut 1 → 1 –
the output `[1,0,1]` belongs to the input `[1,1,0]`.) -/
theorem kl_d8c_counterexample :
    run { oldKeepWorsePrefix := true } (pathGraph 3) 3 none none 1 [1,1,0] = .ok [1,0,1] ∧
    edgeCut (pathGraph 3) [1,1,0] = 1 ∧ edgeCut (pathGraph 3) [1,0,1] = 2 ∧
    run {} (pathGraph 3) 3 none none 1 [1,1,0] = .ok [1,1,0] := by
  decide +kernel

/-- Non-vacuity: the hypotheses of `kl_total` are met by concrete inputs, and
`run` does real work on them (the cut goes from 7 to 1). -/
example : WF (pathGraph 8) [0,1,0,1,0,1,0,1].length :=
  ⟨by decide, by decide⟩
example : TwoWay [0,1,0,1,0,1,0,1] :=
  ⟨0, 1, by decide, by decide, by decide, by decide⟩
example : run {} (pathGraph 8) 8 none none 1 [0,1,0,1,0,1,0,1] = .ok [0,0,0,0,1,1,1,1] ∧
    edgeCut (pathGraph 8) [0,1,0,1,0,1,0,1] = 7 ∧ edgeCut (pathGraph 8) [0,0,0,0,1,1,1,1] = 1 := by
  decide +kernel
/-- labels other than {0,1}, second label first -/
example : run {} (pathGraph 4) 4 (some 2) (some 1) 0 [7,3,7,3] = .ok [7,7,3,3] := by decide +kernel

end Coupe.Kl

#print axioms Coupe.Kl.kl_sizes
#print axioms Coupe.Kl.kl_ids
#print axioms Coupe.Kl.kl_cut_le
#print axioms Coupe.Kl.kl_total
#print axioms Coupe.Kl.kl_unimplemented
#print axioms Coupe.Kl.kl_d8a_counterexample
#print axioms Coupe.Kl.kl_d8b_counterexample
#print axioms Coupe.Kl.kl_d8c_counterexample
