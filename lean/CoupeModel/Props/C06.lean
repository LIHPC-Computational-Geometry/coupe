import CoupeModel.Model.Par
import CoupeModel.Proofs.Par

/-!
# C06 — deterministic partitioners give the same partition for every thread count

What is proved: every parallel skeleton the algorithms use (`Model/Par.lean`) is independent of
the schedule **under exact arithmetic**, for ALL split trees, write orders and `fetch_add` arrival
orders.  What is not: rayon's scheduler is not modelled (that its runs are instances of these
skeletons is checked by the differential run, ops `parsum`, `bbox`, `rcbsplit`, `mjsplit`), and
floating-point sums that are not exact are outside (`ExactSums` is a hypothesis; K6 is the place
where the code leaves it).  The full property is `C06_statement` at the end.
-/

namespace Coupe.Par

/-- `fold(..).reduce(..)` with an associative operation that has a neutral
element gives, along EVERY split tree, the sequential fold. -/
theorem parFold_eq_foldl {α β} (op : β → β → β) (e : β) (embed : α → β) (f : β → α → β)
    (hassoc : ∀ a b c, op (op a b) c = op a (op b c))
    (hl : ∀ a, op e a = a) (hr : ∀ a, op a e = a)
    (hf : ∀ a x, f a x = op a (embed x)) (t : SplitTree) (xs : List α) :
    parFold f op e t xs = xs.foldl f e :=
  parFold_eq_foldl_of_comm (step_comm_of_assoc hassoc hf) (fun _ => hr _) t xs

/-- The same with rayon's extra reduce identity at the leaves. -/
theorem parFoldR_eq_foldl {α β} (op : β → β → β) (e : β) (embed : α → β) (f : β → α → β)
    (hassoc : ∀ a b c, op (op a b) c = op a (op b c))
    (hl : ∀ a, op e a = a) (hr : ∀ a, op a e = a)
    (hf : ∀ a x, f a x = op a (embed x)) (t : SplitTree) (xs : List α) :
    parFoldR f e op e t xs = xs.foldl f e :=
  parFoldR_eq_foldl_of_comm (step_comm_of_assoc hassoc hf) (fun _ => hr _) (hl e) t xs

/-- `fold_with(init, ..).reduce_with(..)` where `init` is not neutral (the
bounding box starts from `(f64::MAX, f64::MIN)`): associativity, commutativity
and `op init init = init` suffice (min / max). -/
theorem parFoldWith_eq_foldl_of_comm_idem {α β} (op : β → β → β) (init : β) (embed : α → β)
    (f : β → α → β)
    (hassoc : ∀ a b c, op (op a b) c = op a (op b c)) (hcomm : ∀ a b, op a b = op b a)
    (hidem : op init init = init)
    (hf : ∀ a x, f a x = op a (embed x)) (t : SplitTree) (xs : List α) :
    parFoldWith f op init t xs = some (xs.foldl f init) := by
  have hstep := step_comm_of_assoc hassoc hf
  rw [parFoldWith_eq_some, parFold_eq_foldl_of_comm hstep]
  -- `init` need not be neutral: it is absorbed by the `init` the fold started from
  intro ys
  rw [hcomm, merge_foldl hstep, hidem]

/-- `map(..).collect()` keeps the order of the range whatever the tree. -/
theorem parMapCollect_order_free {α β} (h : α → β) (t : SplitTree) (xs : List α) :
    parMapCollect h t xs = xs.map h := by
  induction t generalizing xs with
  | leaf => rfl
  | node k l r ihl ihr => rw [parMapCollect, ihl, ihr, ← List.map_append, List.take_append_drop]

/-- Without associativity the tree matters (why the hypothesis is there, and why
`f64` sums that round are outside): subtraction. -/
example : parFold (· - ·) (· - ·) (0 : Int) .leaf [1, 2, 3] = -6 ∧
    parFold (· - ·) (· - ·) (0 : Int) (.node 1 .leaf .leaf) [1, 2, 3] = 4 := by decide +kernel

/-- `map(h).sum()`. -/
theorem parMapSum_schedule_free {α} (h : α → Int) (t : SplitTree) (xs : List α) :
    parMapSum h t xs = (xs.map h).sum := by
  unfold parMapSum
  rw [parFold_eq_foldl (· + ·) 0 h (fun acc x => acc + h x) Int.add_assoc Int.zero_add
    Int.add_zero (fun _ _ => rfl) t xs]
  simp [List.sum_eq_foldl, List.foldl_map]

/-- Integer sums (`weights.par_iter().sum()`, `weight_left`, `total_weight`,
`geometry::center`): same value along every split tree. -/
theorem parSum_schedule_free (t : SplitTree) (xs : List Int) : parSum t xs = xs.sum :=
  (parMapSum_schedule_free id t xs).trans (by rw [List.map_id])

example : parSum (.node 2 .leaf .leaf) [5, -2, 7, 11] = 21 ∧
    parSum (.node 1 .leaf (.node 2 .leaf .leaf)) [5, -2, 7, 11] = 21 := by decide +kernel

/-- `filter(p).count()` / `count_left`. -/
theorem parCount_schedule_free {α} (p : α → Bool) (t : SplitTree) (xs : List α) :
    parCount p t xs = (xs.filter p).length := by
  unfold parCount
  rw [parFold_eq_foldl (· + ·) 0 (fun x => if p x then 1 else 0)
    (fun acc x => if p x then acc + 1 else acc) Nat.add_assoc Nat.zero_add Nat.add_zero
    (fun a x => by split <;> simp) t xs]
  refine foldl_spec _ (fun a xs => a = (xs.filter p).length) rfl ?_ xs
  intro a xs x h
  by_cases hp : p x <;> simp [List.filter_append, hp, h]

/-- One entry of the inertia matrix when centroid and offsets are integral. -/
theorem inertia_entry_schedule_free (ci cj : Int) (t : SplitTree) (pts : List (Int × Int)) :
    parInertiaEntry ci cj t pts = (pts.map (fun p => (p.1 - ci) * (p.2 - cj))).sum :=
  parMapSum_schedule_free _ t pts

example : parInertiaEntry 0 0 (.node 3 .leaf .leaf) [(-2, -1), (2, 1), (-2, 1), (2, -1)] = 0 ∧
    parInertiaEntry 0 0 (.node 1 (.node 1 .leaf .leaf) .leaf) [(-2, -1), (2, 1), (-2, 1), (2, -1)] = 0 ∧
    parInertiaEntry 0 0 .leaf [(-2, -2), (2, 2), (-2, 2), (2, -2)] = 0 := by decide +kernel

/-- One coordinate of `BoundingBox::from_points`: `(min, max)` along every tree
equals the sequential scan, from any starting pair. -/
theorem parBBox_schedule_free (hi lo : Int) (t : SplitTree) (xs : List Int) :
    parBBox hi lo t xs = some (xs.foldl bbStep (hi, lo)) := by
  unfold parBBox
  refine parFoldWith_eq_foldl_of_comm_idem bbMerge (hi, lo) (fun v => (v, v)) bbStep ?_ ?_ ?_ ?_ t xs
  · intro a b c
    simp only [bbMerge, Int.min_assoc, Int.max_assoc]
  · intro a b
    simp only [bbMerge, Int.min_comm a.1, Int.max_comm a.2]
  · simp only [bbMerge, Int.min_self, Int.max_self]
  · intro a v
    simp only [bbStep, bbMerge, Prod.mk.injEq]
    constructor <;> split <;> omega

example : parBBox 1000 (-1000) (.node 1 .leaf .leaf) [3, -4, 9] = some (-4, 9) ∧
    parBBox 1000 (-1000) (.node 2 (.node 1 .leaf .leaf) .leaf) [3, -4, 9] = some (-4, 9) := by decide +kernel

/-- Along EVERY split tree the tuple computed by `par_rcb_split` has: the number
and the weight of the items left of the target, the smallest distance of an item
on the right (`inf` iff there is none), and an index of an item AT that
distance.  (Which of several equally near items is named: the first in range order,
whatever the tree – `nearest_reduce_index_schedule_free`, `nearest_reduce_first` below.
Before /repo f4e2819 it depended on the tree: `nearest_reduce_old_index_schedule_dependent`.) -/
theorem nearest_reduce_value (target : Int) (t : SplitTree) (xs : List Item) :
    let r := parNearest target t xs
    r.count = (xs.filter (fun x => decide (x.coord - target < 0))).length ∧
    r.weight = ((xs.filter (fun x => decide (x.coord - target < 0))).map (·.weight)).sum ∧
    (r.dist = .inf ↔ ∀ x ∈ xs, x.coord - target < 0) ∧
    (∀ d, r.dist = .fin d → ∀ x ∈ xs, 0 ≤ x.coord - target → d ≤ x.coord - target) ∧
    (r.idx = none ↔ r.dist = .inf) ∧
    (∀ j, r.idx = some j →
      ∃ x ∈ xs, x.idx = j ∧ 0 ≤ x.coord - target ∧ r.dist = .fin (x.coord - target)) := by
  have h := parNearest_spec target t xs
  exact ⟨h.count, h.weight, h.inf_iff, h.lower, h.idx_none, h.idx_some⟩

/-- Consequence: two schedules agree on count, weight and distance, and the
items they name as pivot have the same COORDINATE (distances are exact, so the
coordinate is `target + distance`) – `reorder_split` compares with that value
only, so both schedules split the items into the same two sets. -/
theorem nearest_reduce_schedule_free (target : Int) (t t' : SplitTree) (xs : List Item) :
    let r := parNearest target t xs
    let r' := parNearest target t' xs
    r.count = r'.count ∧ r.weight = r'.weight ∧ r.dist = r'.dist ∧
    (r.idx = none ↔ r'.idx = none) ∧
    (∀ x ∈ xs, ∀ y ∈ xs, (xs.map (·.idx)).Nodup →
      r.idx = some x.idx → r'.idx = some y.idx → x.coord = y.coord) := by
  simp only [parNearest_eq_foldl, true_and]
  intro x hx y hy hn hix hiy
  rw [hix, Option.some.injEq] at hiy
  rw [inj_of_nodup_map (·.idx) hn x hx y hy hiy]

/-- **The whole tuple – the pivot's INDEX included – does not depend on the split tree**
(the reduce closure of /repo f4e2819: on a tie it keeps the left operand, as the fold keeps
the first item): it is the tuple of the sequential fold. -/
theorem nearest_reduce_index_schedule_free (target : Int) (t t' : SplitTree) (xs : List Item) :
    parNearest target t xs = parNearest target t' xs ∧
    parNearest target t xs = xs.foldl (nearestStep target) nearestInit := by
  rw [parNearest_eq_foldl, parNearest_eq_foldl]
  exact ⟨rfl, rfl⟩

/-- **The same WITHOUT exact distances**: `dist c t` stands for the rounded value of
`point - split_target` – ANY function `Int → Int → Int` (no monotonicity, no injectivity:
two different coordinates may be equally near).  Along every split tree the tuple is the
sequential fold's, index included. -/
theorem nearest_reduce_rounded_schedule_free (dist : Int → Int → Int) (target : Int)
    (t t' : SplitTree) (xs : List Item) :
    parNearestD dist target t xs = parNearestD dist target t' xs ∧
    parNearestD dist target t xs = xs.foldl (nearestStepD dist target) nearestInit := by
  rw [parNearestD_eq_foldl, parNearestD_eq_foldl]
  exact ⟨rfl, rfl⟩

/-- **Which item is named**, along every split tree and for every distance function: the
FIRST item in range order at the least non-negative distance (every earlier item right of
the target is strictly farther, every later one at least as far); `None` iff no item is
right of the target. -/
theorem nearest_reduce_first (dist : Int → Int → Int) (target : Int) (t : SplitTree)
    (xs : List Item) :
    let r := parNearestD dist target t xs
    (r.idx = none ↔ r.dist = .inf) ∧
    (r.dist = .inf ↔ ∀ x ∈ xs, dist x.coord target < 0) ∧
    (∀ j, r.idx = some j → ∃ pre x post, xs = pre ++ x :: post ∧ x.idx = j ∧
      0 ≤ dist x.coord target ∧ r.dist = .fin (dist x.coord target) ∧
      (∀ y ∈ pre, 0 ≤ dist y.coord target → dist x.coord target < dist y.coord target) ∧
      (∀ y ∈ post, 0 ≤ dist y.coord target → dist x.coord target ≤ dist y.coord target)) := by
  have h := parNearestD_first dist target t xs
  exact ⟨h.idx_none, h.inf_iff, h.first⟩

/-- Non-vacuity, and the tie: two items at the same distance, two trees – the same index
(the first), count, weight and distance. -/
example :
    parNearest 5 .leaf (items [7, 2, 7, 9] [1, 1, 1, 1]) = ⟨1, 1, some 0, .fin 2⟩ ∧
    parNearest 5 (.node 2 .leaf .leaf) (items [7, 2, 7, 9] [1, 1, 1, 1]) = ⟨1, 1, some 0, .fin 2⟩ := by
  decide +kernel

/-- The reduce closure BEFORE /repo f4e2819 (`nearestMergeOld`: on a tie the right operand
won): count, weight and distance were schedule free … -/
theorem nearest_reduce_old_value_schedule_free (target : Int) (t t' : SplitTree) (xs : List Item) :
    let r := parNearestOld target t xs
    let r' := parNearestOld target t' xs
    r.count = r'.count ∧ r.weight = r'.weight ∧ r.dist = r'.dist := by
  have h := (parNearestOldD_value (fun c t => c - t) target t xs).trans
    (parNearestOldD_value _ target t' xs).symm
  simp only [Acc.value, Prod.mk.injEq] at h
  exact h

/-- … but the index was not: two items at the same distance, two trees, two different
indices (0 and 2). -/
theorem nearest_reduce_old_index_schedule_dependent :
    parNearestOld 5 .leaf (items [7, 2, 7, 9] [1, 1, 1, 1]) = ⟨1, 1, some 0, .fin 2⟩ ∧
    parNearestOld 5 (.node 2 .leaf .leaf) (items [7, 2, 7, 9] [1, 1, 1, 1]) = ⟨1, 1, some 2, .fin 2⟩ := by
  decide +kernel

/-- **Defect N11 (fixed by /repo f4e2819), at the level of the skeleton.**  With a rounding
subtraction (down to a multiple of 4: a stand-in for `f32`, where `0 - (-2^24)` and
`1 - (-2^24)` are both `2^24`) the items at 9 and 10 are equally near the target 5.  The
old reduce named index 1 (coordinate 9) along one tree and index 2 (coordinate 10) along
another – pivots of DIFFERENT coordinates, so `reorder_split` put the item at 9 left or
right depending on the block layout, i.e. on the pool size.  The repaired reduce names
index 1 along both (and along every tree: `nearest_reduce_rounded_schedule_free`). -/
theorem n11_old_reduce_pivot_depends_on_tree :
    let dist : Int → Int → Int := fun c t => (c - t) / 4 * 4
    let xs := items [0, 9, 10, 11] [1, 1, 1, 1]
    parNearestOldD dist 5 .leaf xs = ⟨1, 1, some 1, .fin 4⟩ ∧
    parNearestOldD dist 5 (.node 2 .leaf .leaf) xs = ⟨1, 1, some 2, .fin 4⟩ ∧
    parNearestD dist 5 .leaf xs = ⟨1, 1, some 1, .fin 4⟩ ∧
    parNearestD dist 5 (.node 2 .leaf .leaf) xs = ⟨1, 1, some 1, .fin 4⟩ := by
  decide +kernel

/-- Stores to pairwise distinct cells commute: the final array does not depend
on the order in which a parallel `for_each` performs them (Z-curve chunk ids,
MultiJagged leaf ids, RCB `store(iter_id)`, Hilbert `*part = part_id`, the rows
of the dual graph). -/
theorem disjointWrites_comm {α} (a : List α) (ws ws' : List (Nat × α))
    (hdistinct : (ws.map (·.1)).Nodup) (hp : ws.Perm ws') :
    disjointWrites a ws = disjointWrites a ws' :=
  foldl_perm_of_nodup_key (·.1) hp hdistinct write_comm a

/-- What the array holds afterwards, order-free. -/
theorem disjointWrites_cell {α} (a : List α) (ws : List (Nat × α))
    (hdistinct : (ws.map (·.1)).Nodup) (i : Nat) :
    (∀ v, (i, v) ∈ ws → i < a.length → (disjointWrites a ws)[i]? = some v) ∧
    (i ∉ ws.map (·.1) → (disjointWrites a ws)[i]? = a[i]?) :=
  ⟨fun v hm hi => disjointWrites_get_of_mem ws i v a hdistinct hm hi,
   fun h => disjointWrites_get_of_not_mem ws i a h⟩

example : disjointWrites [0, 0, 0, 0] [(2, 7), (0, 5), (3, 9)] = [5, 0, 7, 9] ∧
    disjointWrites [0, 0, 0, 0] [(3, 9), (2, 7), (0, 5)] = [5, 0, 7, 9] := by decide +kernel

/-- Overlapping stores do NOT commute (the hypothesis matters). -/
example : disjointWrites [0] [(0, 1), (0, 2)] ≠ disjointWrites [0] [(0, 2), (0, 1)] := by decide +kernel

/-- `z_curve_partition`: the permutation is duplicate free, so every schedule
of the chunk stores produces the same part ids. -/
theorem zcurve_writes_schedule_free (partition perm : List Nat) (partCount : Nat)
    (hperm : perm.Nodup) (sched : List (Nat × Nat) → List (Nat × Nat))
    (hsched : ∀ ws : List (Nat × Nat), ws.Perm (sched ws)) :
    zcurveAssign partition perm partCount sched = zcurveAssign partition perm partCount id := by
  simp only [zcurveAssign, id_eq]
  refine (disjointWrites_comm partition _ _ ?_ (hsched _)).symm
  rw [labelWrites_targets, enumerate_fst, flatten_zcurveChunks]
  exact hperm

example : zcurveAssign [9, 9, 9, 9, 9] [3, 1, 4, 0, 2] 2 id = [1, 0, 1, 0, 0] ∧
    zcurveAssign [9, 9, 9, 9, 9] [3, 1, 4, 0, 2] 2 List.reverse = [1, 0, 1, 0, 0] := by decide +kernel

/-- The rows of the tools' dual graph (`indice_locks[e1] = neighbors`) are
stored to distinct cells `e1`. -/
theorem dual_rows_schedule_free {α} (cells rows : List α) (ws' : List (Nat × α))
    (hp : ((enumerate rows).map (fun x => (x.2, x.1))).Perm ws') :
    disjointWrites cells ((enumerate rows).map (fun x => (x.2, x.1))) = disjointWrites cells ws' := by
  apply disjointWrites_comm _ _ _ _ hp
  rw [List.map_map]
  show (rows.zipIdx.map Prod.snd).Nodup
  rw [List.zipIdx_map_snd]
  exact List.nodup_range'

/-- Any two arrival orders of the `m` leaves give numberings that differ by a
bijection of `{0, …, m-1}`. -/
theorem fetchAdd_renaming (m : Nat) (o1 o2 : List Nat)
    (h1 : o1.Perm (List.range m)) (h2 : o2.Perm (List.range m)) :
    ∃ ρ : Nat → Nat, (∀ a b, a < m → b < m → ρ a = ρ b → a = b) ∧ (∀ a, a < m → ρ a < m) ∧
      ∀ leaf, leaf < m → fetchAddIds o2 leaf = ρ (fetchAddIds o1 leaf) := by
  have h := fetchAdd_renaming_aux m o1 o2 h1 h2
  exact ⟨_, h.1, h.2.1, h.2.2.1⟩

example : (List.range 3).map (fetchAddIds [2, 0, 1]) = [1, 2, 0] ∧
    (List.range 3).map (fetchAddIds [0, 1, 2]) = [0, 1, 2] := by decide +kernel

/-- The ids MultiJagged writes under two schedules (arrival order of the leaves
AND order of the stores) are the same up to a bijective renaming of the parts. -/
theorem mj_ids_schedule_free_up_to_renaming (partition : List Nat) (leaves : List (List Nat))
    (o1 o2 : List Nat) (s1 s2 : List (Nat × Nat) → List (Nat × Nat))
    (hdisj : leaves.flatten.Nodup)
    (h1 : o1.Perm (List.range leaves.length)) (h2 : o2.Perm (List.range leaves.length))
    (hs1 : ∀ ws : List (Nat × Nat), ws.Perm (s1 ws))
    (hs2 : ∀ ws : List (Nat × Nat), ws.Perm (s2 ws)) :
    ∃ ρ : Nat → Nat, (∀ a b, a < leaves.length → b < leaves.length → ρ a = ρ b → a = b) ∧
      ∀ i ∈ leaves.flatten, i < partition.length →
        ∃ v, v < leaves.length ∧ (mjAssign partition leaves o1 s1)[i]? = some v ∧
          (mjAssign partition leaves o2 s2)[i]? = some (ρ v) := by
  obtain ⟨hinj, _, hren, hlt⟩ := fetchAdd_renaming_aux leaves.length o1 o2 h1 h2
  refine ⟨_, hinj, ?_⟩
  intro i hi hlen
  -- the leaf that owns cell `i`
  obtain ⟨leaf, hleaf, hil⟩ := List.mem_flatten.mp hi
  obtain ⟨j, hj, hjl⟩ := List.getElem_of_mem hleaf
  have hmem : ∀ o : List Nat, (i, fetchAddIds o j) ∈
      labelWrites ((enumerate leaves).map (fun c => (c.1, fetchAddIds o c.2))) := by
    intro o
    rw [mem_labelWrites]
    refine ⟨(leaf, fetchAddIds o j), ?_, hil, rfl⟩
    refine List.mem_map.mpr ⟨(leaf, j), ?_, rfl⟩
    simp only [enumerate]
    rw [List.mem_zipIdx_iff_getElem?]
    simp [hjl, List.getElem?_eq_getElem hj]
  have htargets : ∀ o : List Nat,
      ((labelWrites ((enumerate leaves).map (fun c => (c.1, fetchAddIds o c.2)))).map (·.1)).Nodup := by
    intro o
    rw [labelWrites_targets, List.map_map]
    show ((enumerate leaves).map (·.1)).flatten.Nodup
    rwa [enumerate_fst]
  have hget : ∀ (o : List Nat) (s : List (Nat × Nat) → List (Nat × Nat)), (∀ ws : List (Nat × Nat), ws.Perm (s ws)) →
      (mjAssign partition leaves o s)[i]? = some (fetchAddIds o j) := by
    intro o s hs
    unfold mjAssign
    rw [← disjointWrites_comm partition _ _ (htargets o) (hs _)]
    exact disjointWrites_get_of_mem _ i _ partition (htargets o) (hmem o) hlen
  exact ⟨fetchAddIds o1 j, hlt j hj, hget o1 s1 hs1, by rw [hget o2 s2 hs2, hren j hj]⟩

example :
    mjAssign [9, 9, 9, 9, 9] [[0, 3], [1], [4, 2]] [0, 1, 2] id = [0, 1, 2, 0, 2] ∧
    mjAssign [9, 9, 9, 9, 9] [[0, 3], [1], [4, 2]] [2, 0, 1] List.reverse = [1, 2, 0, 1, 0] ∧
    canon [0, 1, 2, 0, 2] = canon [1, 2, 0, 1, 0] := by decide +kernel

/-- The comparison the harness makes is the right one: renaming by first
occurrence is invariant under every renaming that is injective on the ids
present – so "equal up to renaming" implies "equal after `canon`". -/
theorem canon_renaming_invariant (ρ : Nat → Nat) (ids : List Nat)
    (hinj : ∀ a ∈ ids, ∀ b ∈ ids, ρ a = ρ b → a = b) :
    canon (ids.map ρ) = canon ids :=
  canonAux_map ρ ids [] hinj

/-- The per-part weight vector (fold into a vector + element-wise reduce) is the
same along every split tree: entry `k` is the weight of the points whose bucket
is `k`.  `bucket` (the binary search over the current split positions) is any
function. -/
theorem hilbert_partweights_schedule_free {P} (bucket : P → Nat) (n : Nat) (t t' : SplitTree)
    (xs : List (P × Int)) :
    parPartWeights bucket n t xs = parPartWeights bucket n t' xs ∧
    ∃ pw, parPartWeights bucket n t xs = some pw ∧ pw.length = n ∧
      ∀ k, k < n → pw[k]? = some (((xs.filter (fun x => bucket x.1 == k)).map (·.2)).sum) := by
  rw [parPartWeights_eq_foldl, parPartWeights_eq_foldl]
  exact ⟨rfl, _, rfl, pwSpec_foldl bucket n xs⟩

example :
    parPartWeights (fun p : Nat => p / 10) 3 .leaf [(3, 2), (25, 5), (12, 1), (7, 4)] = some [6, 1, 5] ∧
    parPartWeights (fun p : Nat => p / 10) 3 (.node 1 .leaf (.node 2 .leaf .leaf))
      [(3, 2), (25, 5), (12, 1), (7, 4)] = some [6, 1, 5] := by decide +kernel

/-- The split position does not depend on how rayon cut the slab into blocks:
for non-negative weights it is the first position whose inclusive prefix sum
exceeds the threshold (`len` if none), for EVERY split tree. -/
theorem mj_split_blocks_schedule_free (t : SplitTree) (ws : List Int) (thrB thrW : Int)
    (hnn : ∀ w ∈ ws, 0 ≤ w) (h0 : 0 ≤ thrB) (hBW : thrB ≤ thrW) :
    mjSplit t ws thrB thrW = firstExceed thrW 0 ws := by
  obtain ⟨segs, hflat, hblocks⟩ := parLeaves_blocks t ws 0
  have hb : blocks t ws = blocksOf 0 segs := hblocks
  obtain ⟨sk, rest, hfl, hsum, hres⟩ := blockSearch_spec ws.length thrB segs 0 0
    (by rw [hflat]; exact hnn) h0
  obtain rfl : ws = sk ++ rest := by rw [← hflat, hfl]
  have hsk : ∀ w ∈ sk, 0 ≤ w := fun w hw => hnn w (List.mem_append_left _ hw)
  -- the walk resumes where the block search stopped, at or before the first exceeding position
  rw [mjSplit, hb, hres, walk_eq _ thrW _ _ _ (Nat.sub_le _ _),
    firstExceed_skip thrW rest sk 0 hsk (Int.le_trans hsum hBW)]
  by_cases hr : rest = []
  · subst hr
    simp [firstExceed]
  · simp [hr]

/-- All thresholds of a slab at once. -/
theorem mj_splits_schedule_free (t : SplitTree) (ws : List Int) (bounds : List (Int × Int))
    (hnn : ∀ w ∈ ws, 0 ≤ w) (hb : ∀ b ∈ bounds, 0 ≤ b.1 ∧ b.1 ≤ b.2) :
    mjSplits t ws bounds = bounds.map (fun b => firstExceed b.2 0 ws) :=
  List.map_congr_left fun b hbm =>
    mj_split_blocks_schedule_free t ws b.1 b.2 hnn (hb b hbm).1 (hb b hbm).2

example : mjSplit .leaf [3, 1, 4, 1, 5, 9, 2, 6] 10 10 = 4 ∧
    mjSplit (.node 3 .leaf (.node 2 .leaf .leaf)) [3, 1, 4, 1, 5, 9, 2, 6] 10 10 = 4 ∧
    mjSplit (.node 5 (.node 1 .leaf .leaf) .leaf) [3, 1, 4, 1, 5, 9, 2, 6] 10 10 = 4 ∧
    firstExceed 10 0 [3, 1, 4, 1, 5, 9, 2, 6] = 4 := by decide +kernel

/-- The algorithms of the property. -/
inductive Algo where
  | rcb | rib | hilbert | zcurve | kmeans | multiJagged | dual
deriving DecidableEq, Repr

/-- Inputs with integer coordinates (one list per point) and integer weights. -/
structure Input where
  points : List (List Int)
  weights : List Int
deriving Repr

def absSum (l : List Int) : Nat := (l.map Int.natAbs).sum

def coord (p : List Int) (k : Nat) : Int := p.getD k 0

/-- "All arithmetic is exact": every sum the code forms across points is a sum
of integers that stays below 2^53 – the weights, each coordinate, and the
inertia products around an INTEGRAL centroid.  (Decidable; the harness builds
its second input stream to satisfy it and checks it on every case.) -/
def ExactSums (inp : Input) (dim : Nat) : Prop :=
  absSum inp.weights < 2 ^ 53 ∧
  ∀ i, i < dim → absSum (inp.points.map (coord · i)) < 2 ^ 53 ∧
    ∃ ci : Int, ci * inp.points.length = (inp.points.map (coord · i)).sum ∧
      ∀ j, j < dim → ∃ cj : Int, cj * inp.points.length = (inp.points.map (coord · j)).sum ∧
        absSum (inp.points.map (fun p => (coord p i - ci) * (coord p j - cj))) < 2 ^ 53

/-- The real code as a black box: what it returns for an input under a pool of
`T` threads in its `run`-th execution (ids; for `dual` the CSR arrays). -/
structure Impl where
  out : Algo → Input → (T : Nat) → (run : Nat) → List Nat

/-- Normal form in which outputs are compared. -/
def normal : Algo → List Nat → List Nat
  | .multiJagged, ids => canon ids
  | _, ids => ids

/-- **C06**, the full statement over the real scheduler.  NOT proved here:
`Impl` is the Rust code running on rayon, which is not modelled.  Proved: the
skeleton-level theorems above (every reduction, collect, store and numbering
the code performs is schedule independent under `ExactSums`); tested: the
statement itself, by the harness, pool sizes 1…16 × repetitions. -/
def C06_statement (impl : Impl) (dim : Nat) : Prop :=
  ∀ (algo : Algo) (inp : Input), ExactSums inp dim →
    ∀ T T' run run', 1 ≤ T → T ≤ 16 → 1 ≤ T' → T' ≤ 16 →
      normal algo (impl.out algo inp T run) = normal algo (impl.out algo inp T' run')

/-- What IS proved of `C06_statement`, in one place: under exact arithmetic each
parallel construct of the code yields the same value under any two schedules
(split trees `t t'`, store orders `ws ws'`).  Missing for the full statement: a
model of rayon (that every run is an instance of these skeletons) and of the
sequential glue between the parallel calls. -/
theorem C06_partial :
    (∀ t t' xs, parSum t xs = parSum t' xs) ∧
    (∀ (p : Int → Bool) t t' xs, parCount p t xs = parCount p t' xs) ∧
    (∀ hi lo t t' xs, parBBox hi lo t xs = parBBox hi lo t' xs) ∧
    (∀ ci cj t t' pts, parInertiaEntry ci cj t pts = parInertiaEntry ci cj t' pts) ∧
    (∀ target t t' xs, (parNearest target t xs).count = (parNearest target t' xs).count ∧
      (parNearest target t xs).weight = (parNearest target t' xs).weight ∧
      (parNearest target t xs).dist = (parNearest target t' xs).dist) ∧
    (∀ (bucket : Nat → Nat) n t t' xs,
      parPartWeights bucket n t xs = parPartWeights bucket n t' xs) ∧
    (∀ t t' ws thrB thrW, (∀ w ∈ ws, 0 ≤ w) → 0 ≤ thrB → thrB ≤ thrW →
      mjSplit t ws thrB thrW = mjSplit t' ws thrB thrW) ∧
    (∀ (a : List Nat) ws ws', (ws.map (·.1)).Nodup → ws.Perm ws' →
      disjointWrites a ws = disjointWrites a ws') := by
  refine ⟨?_, ?_, ?_, ?_, ?_, ?_, ?_, ?_⟩
  · intro t t' xs
    rw [parSum_schedule_free, parSum_schedule_free]
  · intro p t t' xs
    rw [parCount_schedule_free, parCount_schedule_free]
  · intro hi lo t t' xs
    rw [parBBox_schedule_free, parBBox_schedule_free]
  · intro ci cj t t' pts
    rw [inertia_entry_schedule_free, inertia_entry_schedule_free]
  · intro target t t' xs
    have h := nearest_reduce_schedule_free target t t' xs
    exact ⟨h.1, h.2.1, h.2.2.1⟩
  · intro bucket n t t' xs
    exact (hilbert_partweights_schedule_free bucket n t t' xs).1
  · intro t t' ws thrB thrW hnn h0 hBW
    rw [mj_split_blocks_schedule_free t ws thrB thrW hnn h0 hBW,
      mj_split_blocks_schedule_free t' ws thrB thrW hnn h0 hBW]
  · intro a ws ws' hn hp
    exact disjointWrites_comm a ws ws' hn hp

/-- Non-vacuity of `ExactSums`: a symmetric cloud with centroid 0 and a
diagonal inertia matrix with well separated entries (the shape of the harness'
"exact-frame" stream). -/
example : ExactSums ⟨[[-4, -1], [4, 1], [-4, 1], [4, -1]], [1, 2, 3, 4]⟩ 2 := by
  refine ⟨by decide, fun i hi => ?_⟩
  obtain rfl | rfl : i = 0 ∨ i = 1 := by omega
  all_goals
    refine ⟨by decide, 0, by decide, fun j hj => ?_⟩
    obtain rfl | rfl : j = 0 ∨ j = 1 := by omega
    all_goals exact ⟨0, by decide, by decide⟩

end Coupe.Par

#print axioms Coupe.Par.parFold_eq_foldl
#print axioms Coupe.Par.parFoldR_eq_foldl
#print axioms Coupe.Par.parFoldWith_eq_foldl_of_comm_idem
#print axioms Coupe.Par.parMapCollect_order_free
#print axioms Coupe.Par.parSum_schedule_free
#print axioms Coupe.Par.parMapSum_schedule_free
#print axioms Coupe.Par.parCount_schedule_free
#print axioms Coupe.Par.inertia_entry_schedule_free
#print axioms Coupe.Par.parBBox_schedule_free
#print axioms Coupe.Par.nearest_reduce_value
#print axioms Coupe.Par.nearest_reduce_schedule_free
#print axioms Coupe.Par.nearest_reduce_index_schedule_free
#print axioms Coupe.Par.nearest_reduce_rounded_schedule_free
#print axioms Coupe.Par.nearest_reduce_first
#print axioms Coupe.Par.nearest_reduce_old_value_schedule_free
#print axioms Coupe.Par.nearest_reduce_old_index_schedule_dependent
#print axioms Coupe.Par.n11_old_reduce_pivot_depends_on_tree
#print axioms Coupe.Par.disjointWrites_comm
#print axioms Coupe.Par.disjointWrites_cell
#print axioms Coupe.Par.zcurve_writes_schedule_free
#print axioms Coupe.Par.dual_rows_schedule_free
#print axioms Coupe.Par.fetchAdd_renaming
#print axioms Coupe.Par.mj_ids_schedule_free_up_to_renaming
#print axioms Coupe.Par.canon_renaming_invariant
#print axioms Coupe.Par.hilbert_partweights_schedule_free
#print axioms Coupe.Par.mj_split_blocks_schedule_free
#print axioms Coupe.Par.mj_splits_schedule_free
#print axioms Coupe.Par.C06_partial
