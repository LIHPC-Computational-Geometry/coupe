import CoupeModel.Model.Ffi
import CoupeModel.Proofs.Ffi

/-!
# C17 — the C API computes what the Rust API computes and contains panics

Property theorems only (lemmas in `Proofs/Ffi.lean`).  Three groups:

* **source-level facts** over the lists `tools/extract.py` regenerates from
  `ffi/src/lib.rs`, `ffi/src/data.rs`, `ffi/include/coupe.h`, `src/algorithms.rs`
  (`Gen/Ffi.lean`).  They are finite data, so `decide` *is* the full-strength proof; they
  break when the sources change in a way that falsifies them (the header typo D9 is the
  regression witness of `exports_match_header`);
* **transcription checks**: the hand-written tables of `Model/Ffi.lean` equal the generated ones;
* **theorems about the modelled layer**, for all arguments and all algorithm outcomes.

Partial by nature: that the library reinterprets the caller's `void *` correctly per element
type, and that a panic never unwinds into the caller, are run-time facts observed by the
differential run through the real library (see `harness/src/props/c17.rs`), not theorems.
-/

namespace Coupe.Ffi
open Coupe.Gen.Ffi

/-! ## Source-level facts -/

/-- Same names in the same order on both sides: `enum coupe_err` of the header is the
`repr(C)` enum of `lib.rs` spelt in the header's convention.  Neither side has an explicit
value (the translator refuses them), so position = numeric code on both sides. -/
theorem err_enum_matches_header :
    headerErrConsts = rustErrVariants.map (fun v => "COUPE_ERR_" ++ upperSnake v) := by
  decide +kernel

/-- … hence, for every error, the number a C caller sees under the name `COUPE_ERR_X` is the
discriminant of `Error::X`. -/
theorem err_code_agrees (e : Err) :
    headerErrConsts[e.code]? = some e.cName ∧ rustErrVariants[e.code]? = some e.name := by
  cases e <;> decide +kernel

/-- The hand-written enums of the model are the ones in the sources. -/
theorem err_enum_transcribed :
    Err.all.map Err.name = rustErrVariants ∧ CErr.all.map CErr.name = coupeErrorVariants ∧
    Ty.all.map Ty.name = rustTypeVariants ∧ Entry.all.map Entry.cName = entries := by
  decide +kernel

/-- Every `coupe::Error` variant has its own arm in `From<coupe::Error>`: the wildcard
`unreachable!()` is dead code (it would otherwise be a panic, i.e. `COUPE_ERR_CRASH`). -/
theorem err_map_total (e : CErr) : (errMap e).isSome = true := by
  cases e <;> decide +kernel

/-- … and the arm is the code `coupe.h` documents for that case. -/
theorem err_map_documented (e : CErr) : errMap e = some (documented e) :=
  errMap_eq e

/-- Distinct Rust errors stay distinct, and none is mapped onto a code that has another
meaning at the C level (success, allocation failure, crash, bad dimension, bad type). -/
theorem err_map_injective (e₁ e₂ : CErr) (h : errMap e₁ = errMap e₂) : e₁ = e₂ := by
  rw [errMap_eq, errMap_eq, Option.some.injEq] at h
  cases e₁ <;> cases e₂ <;> first | rfl | cases h

theorem err_map_range (e : CErr) (c : Err) (h : errMap e = some c) :
    c ≠ .Ok ∧ c ≠ .Alloc ∧ c ≠ .Crash ∧ c ≠ .BadDimension ∧ c ≠ .BadType := by
  rw [errMap_eq] at h
  cases e <;> cases c <;> simp_all [documented]

/-- The arms of `From` name existing variants on both sides, each Rust error once. -/
theorem err_map_wellformed :
    errFromArms.all (fun (a, b) => coupeErrorVariants.contains a && rustErrVariants.contains b) = true ∧
    (errFromArms.map Prod.fst).Nodup ∧ errFromArms.length = coupeErrorVariants.length := by
  decide +kernel

/-- A panic is reported as `Error::Crash`, and the TODO mapping of `HilbertCurveError`. -/
theorem crash_and_hilbert_codes : crash = .Crash ∧ hilbertCode = .NotFound :=
  ⟨crash_eq, hilbertCode_eq⟩

/-- No profile that can build the library (workspace `Cargo.toml`, `ffi/Cargo.toml`, cargo
configuration files of the repository, `-C panic=…` in their rustflags) selects another panic
strategy than cargo's default `unwind`.  This is the assumption `crash_iff_panic` rests on:
under `panic = "abort"` every `catch_unwind` of the C API is a no-op and a panicking input
kills the caller instead of returning `COUPE_ERR_CRASH` (the release library is also run by
the harness, so such a profile yields the failing input `ffi-abort`). -/
theorem panic_strategy_unwind :
    panicSettings.all (fun (_, _, v) => v == "unwind") = true ∧
    cargoFilesScanned.contains "Cargo.toml" = true ∧ cargoFilesScanned.contains "ffi/Cargo.toml" = true := by
  decide +kernel

/-- `coupe_strerror` has a (non-empty, distinct) message for every code, in enum order. -/
theorem strerror_total :
    strerrorArms.map Prod.fst = rustErrVariants ∧
    strerrorArms.all (fun (_, m) => !m.isEmpty) = true ∧ (strerrorArms.map Prod.snd).Nodup := by
  decide +kernel

/-- Every function `coupe.h` declares is exported by `lib.rs` under that exact name, and
vice versa; no name twice. -/
theorem exports_match_header :
    (∀ n, n ∈ headerDecls ↔ n ∈ rustExports) ∧ headerDecls.Nodup ∧ rustExports.Nodup := by
  refine ⟨fun n => ⟨fun h => ?_, fun h => ?_⟩, by decide +kernel, by decide +kernel⟩
  · have : headerDecls.all (fun n => rustExports.contains n) = true := by decide +kernel
    exact List.contains_iff_mem.mp (List.all_eq_true.mp this n h)
  · have : rustExports.all (fun n => headerDecls.contains n) = true := by decide +kernel
    exact List.contains_iff_mem.mp (List.all_eq_true.mp this n h)

/-- Regression witness (defect D9): with the header's former spelling
`coupe_karkarkar_karp_complete` the statement is false — a C program calling the declared
function does not link. -/
theorem exports_mismatch_with_d9_typo :
    let typo := headerDecls.map
      (fun n => if n = "coupe_karmarkar_karp_complete" then "coupe_karkarkar_karp_complete" else n)
    ¬ (∀ n, n ∈ typo ↔ n ∈ rustExports) := by
  intro typo h
  have h1 : "coupe_karkarkar_karp_complete" ∈ typo := by decide +kernel
  have h2 : "coupe_karkarkar_karp_complete" ∉ rustExports := by decide +kernel
  exact h2 ((h _).mp h1)

/-- The type tags: same names in the same order (`COUPE_<NAME>`). -/
theorem type_enum_matches_header :
    headerTypeDocs.map Prod.fst = rustTypeVariants.map (fun v => "COUPE_" ++ upperSnake v) := by
  decide +kernel

/-- Every dispatch macro of `data.rs` (and KarmarkarKarp's own `match`) views a tag as the Rust
type that *is* the C type the header documents for it. -/
theorem type_dispatch_matches_header :
    typeDispatch.all (fun (_, tag, rty) =>
      (cTypeOfRust rty).map (fun c => "`" ++ c ++ "`") ==
        headerTypeDocs.lookup ("COUPE_" ++ upperSnake tag)) = true ∧
    kkTypeDispatch.all (fun (tag, rty) =>
      (cTypeOfRust rty).map (fun c => "`" ++ c ++ "`") ==
        headerTypeDocs.lookup ("COUPE_" ++ upperSnake tag)) = true ∧
    ["with_iter", "with_par_iter", "with_slice"].all (fun m =>
      (typeDispatch.filter (fun (m', _, _) => m' == m)).map (fun (_, tag, _) => tag) == rustTypeVariants) = true ∧
    kkTypeDispatch.map Prod.fst = rustTypeVariants := by
  decide +kernel

/-! ## Transcription checks -/

/-- The prologue table of the model is the sequence of early returns found in the source of
each entry point before its `catch_unwind`, in order. -/
theorem prologue_transcribed (e : Entry) :
    prologues.lookup e.cName = some ((prologue e).map (fun (g, c) => (g.text, c.name))) := by
  cases e <;> decide +kernel

theorem dims_transcribed (e : Entry) :
    dimDispatch.lookup e.cName = (dims e).map (fun (ds, bad) => (ds, bad.name)) := by
  cases e <;> decide +kernel

theorem elem_count_transcribed (e : Entry) :
    elementCount.lookup e.cName = some (elemCountOf e) := by
  cases e <;> decide +kernel

/-- In the source, every call of an algorithm sits inside its entry point's `catch_unwind`. -/
theorem entries_wrapped (e : Entry) : entriesWrapped.lookup e.cName = some true := by
  cases e <;> decide +kernel

/-! ## The modelled layer -/

/-- `COUPE_ERR_BAD_DIMENSION` is returned exactly by `coupe_rcb`/`coupe_rib` called with
equally long data sets and a dimension other than 2 and 3. -/
theorem bad_dimension_iff (e : Entry) (a : Args) (algo : Algo) :
    (run e a algo).code = .BadDimension ↔
      (e = .rcb ∨ e = .rib) ∧ a.pointsLen = a.weightsLen ∧ a.dim ≠ 2 ∧ a.dim ≠ 3 := by
  rw [code_eq_iff]
  cases e <;> simp [rejectCode_geo, rejectCode_hilbert, rejectCode_num, rejectCode_fm, finishCode_ne_badDimension]

/-- `COUPE_ERR_BAD_TYPE`: exactly `coupe_hilbert` with equally long data sets and weights that
are not `double`, and `coupe_fiduccia_mattheyses` with an adjacency that is not `int64`. -/
theorem bad_type_iff (e : Entry) (a : Args) (algo : Algo) :
    (run e a algo).code = .BadType ↔
      (e = .hilbert ∧ a.pointsLen = a.weightsLen ∧ a.weightsTy ≠ .Double) ∨
      (e = .fm ∧ a.adjTy ≠ .Int64) := by
  rw [code_eq_iff]
  cases e <;> simp [rejectCode_geo, rejectCode_hilbert, rejectCode_num, rejectCode_fm, finishCode_ne_badType]

/-- Mismatched lengths are reported first — whatever the dimension, the type and the data —
and the caller's array is left alone. -/
theorem len_mismatch_first (e : Entry) (he : e = .rcb ∨ e = .rib ∨ e = .hilbert)
    (a : Args) (algo : Algo) (h : a.pointsLen ≠ a.weightsLen) :
    run e a algo = ⟨.LenMismatch, some a.init⟩ := by
  rw [run_eq]
  rcases he with rfl | rfl | rfl
  · rw [(rejectCode_geo (.inl rfl) a _).2 (.inl ⟨rfl, h⟩)]
  · rw [(rejectCode_geo (.inr rfl) a _).2 (.inl ⟨rfl, h⟩)]
  · rw [(rejectCode_hilbert a _).2 (.inl ⟨rfl, h⟩)]

/-- `COUPE_ERR_LEN_MISMATCH` has exactly two sources: the prologue of the three geometric
entry points, and an `InputLenMismatch` of the algorithm itself (FiducciaMattheyses with an
adjacency of another size is the reachable case). -/
theorem len_mismatch_iff (e : Entry) (a : Args) (algo : Algo) :
    (run e a algo).code = .LenMismatch ↔
      ((e = .rcb ∨ e = .rib ∨ e = .hilbert) ∧ a.pointsLen ≠ a.weightsLen) ∨
      (reaches e a ∧ ∃ ids, algo = .err .InputLenMismatch ids) := by
  rw [code_eq_iff, finishCode_lenMismatch_iff]
  cases e <;> simp [rejectCode_geo, rejectCode_hilbert, rejectCode_num, rejectCode_fm]

/-- In the model (where `catch_unwind` catches every panic — the assumption the differential
run tests): the crash code is returned exactly when the call reaches the algorithm and the
algorithm panics. -/
theorem crash_iff_panic (e : Entry) (a : Args) (algo : Algo) :
    (run e a algo).code = .Crash ↔ reaches e a ∧ algo = .panic := by
  rw [code_eq_iff, finishCode_crash_iff]
  cases e <;> simp [rejectCode_geo, rejectCode_hilbert, rejectCode_num, rejectCode_fm]

/-- A call that reaches the algorithm returns what the Rust API returns: `Ok` with the
algorithm's array, or the documented code of the algorithm's error with the array as the
algorithm left it. -/
theorem run_reaches (e : Entry) (a : Args) (algo : Algo) (h : reaches e a) :
    run e a algo = finish algo := by
  rw [run_eq, (reaches_iff e a).1 h]

/-- A rejected call never answers `Ok`. -/
theorem rejected_ne_ok (e : Entry) (a : Args) (algo : Algo) (h : ¬ reaches e a) :
    (run e a algo).code ≠ .Ok := fun hc =>
  ((code_eq_iff e a algo _).1 hc).elim (rejectCode_ne_ok e a) fun hr => h hr.1

/-- `COUPE_ERR_OK` with array `ids` is returned exactly when the call reaches the algorithm
and the Rust API answers `Ok` leaving `ids` in the array: the C entry point fills the
caller's array with the partition the Rust algorithm produces. -/
theorem run_ok_iff (e : Entry) (a : Args) (algo : Algo) (ids : List Nat) :
    run e a algo = ⟨.Ok, some ids⟩ ↔ reaches e a ∧ algo = .ok ids := by
  constructor
  · intro h
    by_cases hr : reaches e a
    · rw [run_reaches e a algo hr] at h
      exact ⟨hr, (finish_ok_iff algo ids).mp h⟩
    · exact absurd (by rw [h]) (rejected_ne_ok e a algo hr)
  · rintro ⟨hr, rfl⟩
    rw [run_reaches e a _ hr]
    rfl

/-- A rejected call (any code coming from the prologue or the dimension dispatch) leaves the
caller's array untouched. -/
theorem rejected_leaves_array (e : Entry) (a : Args) (algo : Algo) (h : ¬ reaches e a) :
    (run e a algo).part = some a.init := by
  rw [run_eq]
  cases hc : rejectCode e a with
  | none => exact absurd ((reaches_iff e a).2 hc) h
  | some c => rfl

/-- The three representations of one logical sequence are indistinguishable through every
accessor the entry points use (`iter`, `par_iter`, `to_slice`, `len`). -/
theorem repr_denotes {α : Type} (d : Data α) (l : List α) (h : d.Denotes l) :
    d.iter = l ∧ d.parIter = l ∧ d.toSlice = l ∧ d.len = l.length := by
  have hi := Data.iter_of_denotes d l h
  refine ⟨hi, ?_, ?_, ?_⟩
  · rw [← Data.iter_eq_parIter, hi]
  · rw [← Data.parIter_eq_toSlice, ← Data.iter_eq_parIter, hi]
  · cases d <;> exact h.1.symm

theorem repr_irrelevant {α : Type} (d₁ d₂ : Data α) (l : List α)
    (h₁ : d₁.Denotes l) (h₂ : d₂.Denotes l) :
    d₁.iter = d₂.iter ∧ d₁.parIter = d₂.parIter ∧ d₁.toSlice = d₂.toSlice ∧ d₁.len = d₂.len := by
  obtain ⟨a1, b1, c1, e1⟩ := repr_denotes d₁ l h₁
  obtain ⟨a2, b2, c2, e2⟩ := repr_denotes d₂ l h₂
  exact ⟨a1.trans a2.symm, b1.trans b2.symm, c1.trans c2.symm, e1.trans e2.symm⟩

/-- Each representation can present any sequence (an array, a callback) resp. any constant
sequence: the hypotheses of `repr_irrelevant` are satisfiable. -/
theorem repr_exists {α : Type} [Inhabited α] (l : List α) :
    (Data.array l.length l).Denotes l ∧ (Data.fn l.length (fun i => l[i]!)).Denotes l ∧
    ∀ n (v : α), (Data.constant n v).Denotes (List.replicate n v) := by
  refine ⟨⟨rfl, fun _ _ => rfl⟩, ⟨rfl, fun i hi => ?_⟩, fun n v => ⟨by simp, fun x hx => ?_⟩⟩
  · simp [hi]
  · exact (List.mem_replicate.mp hx).2

/-! ## Non-vacuity and concrete behaviour -/

example : run .rcb { dim := 4, pointsLen := 3, weightsLen := 3, init := [7, 7, 7] } (.ok [0, 1, 0])
    = ⟨.BadDimension, some [7, 7, 7]⟩ := by decide
example : run .rcb { dim := 4, pointsLen := 3, weightsLen := 2, init := [7, 7, 7] } .panic
    = ⟨.LenMismatch, some [7, 7, 7]⟩ := by decide
example : run .rib { dim := 3, pointsLen := 3, weightsLen := 3, init := [7, 7, 7] } (.ok [0, 1, 0])
    = ⟨.Ok, some [0, 1, 0]⟩ := by decide
example : run .hilbert { pointsLen := 2, weightsLen := 2, weightsTy := .Int, init := [7, 7] } (.ok [0, 1])
    = ⟨.BadType, some [7, 7]⟩ := by decide
example : run .hilbert { pointsLen := 2, weightsLen := 2, init := [7, 7] } (.hilbertErr [7, 7])
    = ⟨.NotFound, some [7, 7]⟩ := by decide
example : run .ckk { weightsLen := 2, init := [7, 7] } (.err .NotFound [7, 7])
    = ⟨.NotFound, some [7, 7]⟩ := by decide
example : run .fm { weightsLen := 2, init := [0, 2] } (.err .BiPartitioningOnly [0, 2])
    = ⟨.BipartOnly, some [0, 2]⟩ := by decide
example : run .fm { weightsLen := 2, adjTy := .Double, init := [0, 1] } (.ok [1, 1])
    = ⟨.BadType, some [0, 1]⟩ := by decide
example : run .greedy { weightsLen := 2, init := [0, 1] } .panic = ⟨.Crash, none⟩ := by decide
example : reaches .rcb { dim := 3, pointsLen := 5, weightsLen := 5 } := by
  refine ⟨by decide, fun ds bad h => ?_⟩
  simp [dims] at h
  obtain ⟨rfl, _⟩ := h
  decide
example : (Data.array 3 [1, 2, 3, 99]).toSlice = (Data.fn 3 (fun i => i + 1)).iter := by decide
example : (Data.constant 3 5).parIter = (Data.array 3 [5, 5, 5]).iter := by decide

end Coupe.Ffi

#print axioms Coupe.Ffi.err_enum_matches_header
#print axioms Coupe.Ffi.err_code_agrees
#print axioms Coupe.Ffi.err_enum_transcribed
#print axioms Coupe.Ffi.err_map_total
#print axioms Coupe.Ffi.err_map_documented
#print axioms Coupe.Ffi.err_map_injective
#print axioms Coupe.Ffi.err_map_range
#print axioms Coupe.Ffi.err_map_wellformed
#print axioms Coupe.Ffi.crash_and_hilbert_codes
#print axioms Coupe.Ffi.panic_strategy_unwind
#print axioms Coupe.Ffi.strerror_total
#print axioms Coupe.Ffi.exports_match_header
#print axioms Coupe.Ffi.exports_mismatch_with_d9_typo
#print axioms Coupe.Ffi.type_enum_matches_header
#print axioms Coupe.Ffi.type_dispatch_matches_header
#print axioms Coupe.Ffi.prologue_transcribed
#print axioms Coupe.Ffi.dims_transcribed
#print axioms Coupe.Ffi.elem_count_transcribed
#print axioms Coupe.Ffi.entries_wrapped
#print axioms Coupe.Ffi.bad_dimension_iff
#print axioms Coupe.Ffi.bad_type_iff
#print axioms Coupe.Ffi.len_mismatch_first
#print axioms Coupe.Ffi.len_mismatch_iff
#print axioms Coupe.Ffi.crash_iff_panic
#print axioms Coupe.Ffi.run_reaches
#print axioms Coupe.Ffi.rejected_ne_ok
#print axioms Coupe.Ffi.run_ok_iff
#print axioms Coupe.Ffi.rejected_leaves_array
#print axioms Coupe.Ffi.repr_denotes
#print axioms Coupe.Ffi.repr_irrelevant
#print axioms Coupe.Ffi.repr_exists
