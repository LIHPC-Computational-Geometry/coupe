import CoupeModel.Model.Sfc
import CoupeModel.Proofs.Sfc

/-!
# C09 — space-filling-curve parts are contiguous runs of the curve

Property theorems only (lemmas: `Proofs/Sfc.lean`).

Hilbert half: part ids are looked up by `binary_search` in the split positions that
`weighted_quantiles` returns *sorted* (its last two lines, the K3 fix); the ids are then
monotone along the curve and below `part_count` whatever the refinement loop computed
(`hilbert_parts_monotone`).  The refinement loop itself is modelled (`Hilbert.quantiles`,
compared exactly with the code in the correspondence run) but nothing is claimed about
the positions it finds, nor about its termination (`quantiles_terminates_statement`).

ZCurve half: `z_curve_partition_recurse` leaves the permutation sorted by Z-order cell
(`zsort_sorted`) for every region function and every sort meeting `SortSpec`; the chunk
arithmetic gives consecutive runs whose sizes differ by at most one (`chunk_*`,
`zcurve_parts_runs`, `zcurve_part_sizes`).
-/

namespace Coupe.Sfc

/-- `binary_search` on a sorted slice: `Ok(i)` → `s[i] = key`; `Err(i)` → `i` is the
insertion point; the index never exceeds the length. -/
theorem bsearch_spec (s : List Nat) (key : Nat) (hs : s.Pairwise (· ≤ ·)) :
    match bsearch s key with
    | .ok i => i < s.length ∧ s.getD i 0 = key
    | .err i => i ≤ s.length ∧ (∀ j, j < i → s.getD j 0 < key) ∧
        (∀ j, i ≤ j → j < s.length → key < s.getD j 0) := by
  have h := bsearchBy_spec s.length _ (mono_of_sorted hs (compare · key)
    (fun x y hxy h => by rw [Nat.compare_eq_gt] at h ⊢; omega)
    (fun x y hxy h => by rw [Nat.compare_eq_lt] at h ⊢; omega))
  simp only [Nat.compare_eq_eq, Nat.compare_eq_lt, Nat.compare_eq_gt] at h
  exact h

/-- Without sortedness: the index found is at most the length, for every comparator –
this is what makes `part id < part_count` unconditional. -/
theorem bsearch_le_len (len : Nat) (cmpAt : Nat → Ordering) :
    (bsearchBy len cmpAt).idx ≤ len := by
  by_cases hl : len = 0
  · subst hl; exact Nat.le_refl 0
  · have := bsLoop_lt cmpAt len hl
    rw [bsearchBy_idx len cmpAt hl]
    split <;> omega

/-- The design asked for a witness that an *unsorted* split vector breaks monotonicity
(`quantiles_unsorted_counterexample`).  That statement is FALSE of Rust 1.95's
`binary_search_by`: its branch-free loop (no early exit on `Equal`, `base` only moves
up) is monotone in the key on **every** slice, sorted or not.  So with this std version
the missing sort (K3) could not make the ids non-monotone; the sort is still what the
documented contract of `binary_search` requires (and earlier std versions, which exit
early on `Equal`, are not covered by this theorem). -/
theorem bsearch_monotone_on_any_slice (s : List Nat) (a b : Nat) (hab : a ≤ b) :
    (bsearch s a).idx ≤ (bsearch s b).idx := by
  apply bsearchBy_mono_any
  · intro i h
    rw [Nat.compare_eq_gt] at h ⊢
    omega
  · intro i h
    rw [Nat.compare_eq_lt] at h ⊢
    omega

/-- Sorted splits: a smaller (or equal) curve index gets a part id that is not larger.
(`hs` is not used: `bsearch_monotone_on_any_slice`.) -/
theorem assign_monotone (splits : List Nat) (hs : splits.Pairwise (· ≤ ·)) (a b : Nat)
    (hab : a ≤ b) : (bsearch splits a).idx ≤ (bsearch splits b).idx :=
  bsearch_monotone_on_any_slice splits a b hab

/-- Every id is at most `splits.length` (= `part_count - 1`), sorted or not. -/
theorem assign_lt (idxs splits : List Nat) : ∀ x ∈ Hilbert.assign idxs splits, x ≤ splits.length := by
  intro x hx
  obtain ⟨i, _, rfl⟩ := List.mem_map.mp hx
  exact bsearch_le_len _ _

/-- The specification of the final `sort_unstable_by`: a sorted permutation. -/
theorem sorted_of_sort (l : List Nat) : (sortAsc l).Pairwise (· ≤ ·) ∧ (sortAsc l).Perm l :=
  ⟨pairwise_sortAsc l, perm_sortAsc l⟩

/-- **Hilbert half of C09.**  Whatever positions the refinement loop ends with (`positions`
is arbitrary, `positions.length + 1 = part_count`): the ids written by `partition_indexed`
are monotone along the curve – a point with a smaller-or-equal curve index never gets a
larger part id, so every part is one interval of the curve – and are below `part_count`. -/
theorem hilbert_parts_monotone (idxs positions : List Nat) :
    (Hilbert.partitionIndexed idxs positions).length = idxs.length ∧
    (∀ i j, i < idxs.length → j < idxs.length → idxs.getD i 0 ≤ idxs.getD j 0 →
      (Hilbert.partitionIndexed idxs positions).getD i 0 ≤
        (Hilbert.partitionIndexed idxs positions).getD j 0) ∧
    (∀ x ∈ Hilbert.partitionIndexed idxs positions, x < positions.length + 1) := by
  refine ⟨by simp [Hilbert.partitionIndexed, Hilbert.assign], ?_, ?_⟩
  · intro i j hi hj hij
    simp only [Hilbert.partitionIndexed, Hilbert.assign, List.getD_eq_getElem?_getD,
      List.getElem?_map, List.getElem?_eq_getElem hi, List.getElem?_eq_getElem hj,
      Option.map_some, Option.getD_some] at hij ⊢
    exact bsearch_monotone_on_any_slice _ _ _ hij
  · intro x hx
    have := assign_lt idxs (sortAsc positions) x hx
    rw [(perm_sortAsc positions).length_eq] at this
    omega

/-- `weighted_quantiles` (as modelled, refinement loop included): whenever the loop ends,
the returned positions are sorted and there are exactly `n - 1` of them – so the ids of
`partition_indexed` are monotone along the curve and below `part_count = n`. -/
theorem quantiles_result_sorted (fuel : Nat) (idxs : List Nat) (ws : List Float) (n : Nat) (hn : 1 ≤ n)
    (pos : List Nat) (h : Hilbert.quantiles fuel idxs ws n = some pos) :
    pos.Pairwise (· ≤ ·) ∧ pos.length = n - 1 ∧
    (∀ a b, a ≤ b → (bsearch pos a).idx ≤ (bsearch pos b).idx) ∧
    (∀ x ∈ Hilbert.assign idxs pos, x < n) := by
  obtain ⟨h1, h2⟩ := Hilbert.quantiles_sorted_len fuel idxs ws n pos h
  refine ⟨h1, h2, bsearch_monotone_on_any_slice pos, fun x hx => ?_⟩
  have := assign_lt idxs pos x hx
  omega

/-- Termination of the refinement loop of `weighted_quantiles` (every split eventually
settles).  NOT claimed: no decreasing measure is known – the bounds of a split are taken
from the current positions of its neighbours, which move too.  In the correspondence run
the real loop is watched by a 20 s watchdog and the model by a fuel bound; neither was
ever hit. -/
def quantiles_terminates_statement : Prop :=
  ∀ (idxs : List Nat) (ws : List Float) (n : Nat), idxs ≠ [] → 1 ≤ n →
    ∃ fuel, (Hilbert.quantiles fuel idxs ws n).isSome

namespace ZCurve

/-- Ids do not decrease along the reordered permutation. -/
theorem chunk_monotone (n k pos pos' : Nat) (hk : 1 ≤ k) (h : pos ≤ pos') (hp : pos' < n) :
    chunkId n k pos ≤ chunkId n k pos' :=
  chunk_le_of_interval n k (chunk_mem_interval n k pos hk (Nat.lt_of_le_of_lt h hp)).1 h
    (chunk_mem_interval n k pos' hk hp).2

/-- Every id is below `part_count` (also when `part_count > n`: defect D3's fix). -/
theorem chunk_lt (n k pos : Nat) (hk : 1 ≤ k) (hp : pos < n) : chunkId n k pos < k := by
  refine Nat.lt_of_not_le fun hc => Nat.lt_irrefl pos ?_
  -- `chunkStart k = n ≤ chunkStart (chunkId pos) ≤ pos`
  have := Nat.le_trans (chunkStart_mono n k hc) (chunk_mem_interval n k pos hk hp).1
  rw [chunkStart_last n k hk] at this
  exact Nat.lt_of_lt_of_le hp this

/-- Chunk `c` is the run of positions `[chunkStart c, chunkStart (c+1))`; the runs tile
`0..n` in order; run `c` has `n / k + 1` positions for `c < n % k` and `n / k` otherwise –
sizes differ by at most one, exactly `min k n` parts are non-empty (all `k` when `k ≤ n`). -/
theorem chunk_sizes (n k : Nat) (hk : 1 ≤ k) :
    (∀ pos c, pos < n → (chunkId n k pos = c ↔ chunkStart n k c ≤ pos ∧ pos < chunkStart n k (c + 1))) ∧
    chunkStart n k 0 = 0 ∧ chunkStart n k k = n ∧
    (∀ c, c < k → chunkSize n k c = n / k + (if c < n % k then 1 else 0)) ∧
    (∀ c c', c < k → c' < k → chunkSize n k c ≤ chunkSize n k c' + 1) ∧
    (∀ c, c < k → (0 < chunkSize n k c ↔ c < n)) := by
  refine ⟨fun pos c hp => chunk_interval n k pos c hk hp, chunkStart_zero n k, chunkStart_last n k hk,
    fun c hc => chunkSize_eq n k c hk hc, ?_, ?_⟩
  · intro c c' hc hc'
    rw [chunkSize_eq n k c hk hc, chunkSize_eq n k c' hk hc', Nat.add_assoc]
    refine Nat.add_le_add_left ?_ _
    split
    · exact Nat.le_add_left 1 _
    · exact Nat.zero_le _
  · intro c hc
    rw [chunkSize_eq n k c hk hc]
    by_cases hnk : n < k
    · -- fewer positions than parts: chunks of one position, `n` of them
      rw [Nat.div_eq_of_lt hnk, Nat.mod_eq_of_lt hnk, Nat.zero_add]
      split <;> simp [*]
    · have hP := Nat.div_pos (Nat.le_of_not_lt hnk) hk
      exact ⟨fun _ => Nat.lt_of_lt_of_le hc (Nat.le_of_not_lt hnk),
        fun _ => Nat.lt_of_lt_of_le hP (Nat.le_add_right _ _)⟩

/-- `z_curve_partition_recurse` – for **any** region function with values below `2^D` and
any `par_sort_unstable_by_key` that returns a permutation sorted by the key: no panic
(`unwrap_err`, `split_at_mut_many`), the result is a permutation of the slice, and the
Z-order cells (`relCode`: the regions of the next `order` levels, what the hash encodes)
are lexicographically non-decreasing along it. -/
theorem zsort_sorted (dim : Nat) (sortBy : (Nat → Nat) → List Nat → List Nat) (hs : SortSpec sortBy)
    (region : List Nat → Nat → Nat) (hreg : ∀ path i, region path i < 2 ^ dim)
    (order : Nat) (permu : List Nat) :
    ∃ out, sortRec (2 ^ dim) sortBy region order [] permu = some out ∧ out.Perm permu ∧
      out.Pairwise (fun a b => lexLe (relCode region order [] a) (relCode region order [] b)) :=
  sortRec_spec (2 ^ dim) sortBy hs region hreg order [] permu

/-- **ZCurve half of C09.**  `z_curve_partition` on `n ≥ 0` points with `part_count ≥ 1`:
the reordered permutation `perm` is sorted by Z-order cell, the point at position `pos`
of it gets `chunkId n k pos`, hence ids never decrease along the sorted order (parts are
consecutive runs) and every id is below `part_count`. -/
theorem zcurve_parts_runs (dim order k n : Nat) (hk : 1 ≤ k) (hord : order ≤ maxOrder dim)
    (sortBy : (Nat → Nat) → List Nat → List Nat) (hs : SortSpec sortBy)
    (region : List Nat → Nat → Nat) (hreg : ∀ path i, region path i < 2 ^ dim)
    (p0 : List Nat) (hp0 : p0.length = n) :
    ∃ perm ids, sortRec (2 ^ dim) sortBy region order [] (List.range n) = some perm ∧
      perm.Perm (List.range n) ∧
      perm.Pairwise (fun a b => lexLe (relCode region order [] a) (relCode region order [] b)) ∧
      partition dim order k sortBy region n p0 = .ok ids ∧ ids.length = n ∧
      (∀ pos, pos < n → ids.getD (perm.getD pos 0) 0 = chunkId n k pos) ∧
      (∀ pos pos', pos ≤ pos' → pos' < n →
        ids.getD (perm.getD pos 0) 0 ≤ ids.getD (perm.getD pos' 0) 0) ∧
      (∀ i, i < n → ids.getD i 0 < k) := by
  obtain ⟨perm, hsome, hperm, hpw⟩ := zsort_sorted dim sortBy hs region hreg order (List.range n)
  have hlen : perm.length = n := by rw [hperm.length_eq, List.length_range]
  have hnd : perm.Nodup := hperm.nodup_iff.mpr List.nodup_range
  have hlt : ∀ x ∈ perm, x < p0.length := fun x hx =>
    hp0 ▸ List.mem_range.mp (hperm.mem_iff.mp hx)
  have hget : ∀ pos, pos < n → (writeIds n k perm p0).getD (perm.getD pos 0) 0 = chunkId n k pos :=
    fun pos h => writeIds_get n k perm p0 hnd hlt pos (hlen ▸ h)
  refine ⟨perm, writeIds n k perm p0, hsome, hperm, hpw, ?_, ?_, hget, ?_, ?_⟩
  · rw [partition, if_neg (fun h => h hp0), if_neg (Nat.not_lt.mpr hord)]
    by_cases hn : n = 0
    · -- early return: nothing is written, and `perm` is empty
      rw [if_pos hn, List.length_eq_zero_iff.mp (hlen.trans hn)]
      rfl
    · rw [if_neg hn, hsome]
      dsimp only
      rw [if_neg (Nat.ne_of_gt hk), writeIdsA_toList]
  · rw [writeIds_length, hp0]
  · intro pos pos' h h'
    rw [hget pos (Nat.lt_of_le_of_lt h h'), hget pos' h']
    exact chunk_monotone n k pos pos' hk h h'
  · intro i hi
    obtain ⟨pos, hpos, rfl⟩ := List.mem_iff_getElem.mp (hperm.mem_iff.mpr (List.mem_range.mpr hi))
    rw [← getD_eq_getElem 0 hpos, hget pos (hlen ▸ hpos)]
    exact chunk_lt n k pos hk (hlen ▸ hpos)

/-- Part sizes of the written ids: part `c` holds `n / k + 1` points for `c < n % k` and
`n / k` otherwise (so sizes differ by at most one), for every array `ids` that carries
`chunkId pos` at the `pos`-th point of a permutation of `0..n`. -/
theorem zcurve_part_sizes (n k c : Nat) (hk : 1 ≤ k) (hc : c < k) (perm ids : List Nat)
    (hperm : perm.Perm (List.range n))
    (hget : ∀ pos, pos < n → ids.getD (perm.getD pos 0) 0 = chunkId n k pos) :
    ((List.range n).filter (fun i => decide (ids.getD i 0 = c))).length =
      n / k + (if c < n % k then 1 else 0) := by
  have hlen : perm.length = n := by rw [hperm.length_eq, List.length_range]
  have hpe : perm = (List.range n).map (fun pos => perm.getD pos 0) :=
    List.ext_getElem (by rw [List.length_map, List.length_range, hlen]) fun i h1 _ => by
      rw [List.getElem_map, List.getElem_range, getD_eq_getElem 0 h1]
  -- count along `perm` instead of along `0..n`, then by position in `perm`
  rw [← (hperm.filter _).length_eq, ← chunkSize_eq n k c hk hc, chunkSize, hpe, List.filter_map,
    List.length_map]
  exact congrArg List.length (List.filter_congr fun pos hpos =>
    congrArg (fun x => decide (x = c)) (hget pos (List.mem_range.mp hpos)))

end ZCurve

/-! ## non-vacuity and regression witnesses -/

/-- K3's input: the split positions the refinement ends with are `[10, 12 × 13]` (found by
the model and, identically, by the code: corpus `k3_unsorted_quantiles.case`); ids
`[14,0,14,13,13,0,0]` are monotone in the indices `[13,1,13,12,12,8,3]`, all below 15. -/
example : Hilbert.partitionIndexed [13,1,13,12,12,8,3] [10,12,12,12,12,12,12,12,12,12,12,12,12,12]
    = [14,0,14,13,13,0,0] := by decide

/-- `bsearch_spec`'s hypothesis is met by a slice with duplicates; `Ok` lands on one of them. -/
example : [1,3,3,3,5].Pairwise (· ≤ ·) ∧ bsearch [1,3,3,3,5] 3 = .ok 3 ∧ bsearch [1,3,3,3,5] 4 = .err 4 := by
  decide

/-- An unsorted split vector (what the pre-fix code could return): the lookup stays in range
and, with this `binary_search`, monotone. -/
example : Hilbert.assign [0,4,8,12,16,20] [15, 5, 10] = [0,0,2,3,3,3] := by decide

/-- D3's input (3 points, 5 parts): ids 0,1,2 – no division of the tail by a zero chunk size. -/
example : (List.range 3).map (ZCurve.chunkId 3 5) = [0,1,2] := by decide

example : (List.range 7).map (ZCurve.chunkId 7 3) = [0,0,0,1,1,2,2] := by decide

/-- `SortSpec` is met by the insertion sort the driver uses … -/
example : ZCurve.SortSpec ZCurve.sortByKey := ZCurve.sortByKey_spec

/-- … and by the merge sort the driver uses on large inputs. -/
example : ZCurve.SortSpec ZCurve.mergeByKey := ZCurve.mergeByKey_spec

/-- A concrete 2-level sort. -/
example : ZCurve.sortRec 4 ZCurve.sortByKey (fun path i => (i / 4 ^ (1 - path.length)) % 4) 2 []
    [5,3,15,0,9,7,7,2] = some [0,2,3,5,7,7,9,15] := by decide

end Coupe.Sfc

#print axioms Coupe.Sfc.bsearch_spec
#print axioms Coupe.Sfc.bsearch_le_len
#print axioms Coupe.Sfc.assign_monotone
#print axioms Coupe.Sfc.assign_lt
#print axioms Coupe.Sfc.sorted_of_sort
#print axioms Coupe.Sfc.hilbert_parts_monotone
#print axioms Coupe.Sfc.quantiles_result_sorted
#print axioms Coupe.Sfc.bsearch_monotone_on_any_slice
#print axioms Coupe.Sfc.ZCurve.chunk_monotone
#print axioms Coupe.Sfc.ZCurve.chunk_lt
#print axioms Coupe.Sfc.ZCurve.chunk_sizes
#print axioms Coupe.Sfc.ZCurve.zsort_sorted
#print axioms Coupe.Sfc.ZCurve.zcurve_parts_runs
#print axioms Coupe.Sfc.ZCurve.zcurve_part_sizes
