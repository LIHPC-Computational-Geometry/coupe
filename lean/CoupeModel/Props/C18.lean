import CoupeModel.Model.Dual
import CoupeModel.Proofs.Dual

/-!
# C18 — the tools' dual graph matches its definition; element counts agree

Property theorems only (lemmas: `Proofs/Dual.lean`).  `run` is the model of
`tools/src/lib.rs: dual`, `g.row i` is row `i` of the returned CSR matrix,
`cell m d i` the node list of the `i`-th element of the highest dimension `d`
(edges excluded) in block order, `commonCount a b` the number of positions of
`a` whose node occurs in `b` – the size of the intersection when `a` has no
repeated node.

Hypotheses, all explicit:
* `m.WF` – the invariant `Mesh::from_raw_parts` asserts (one reference per
  element).  Before /repo f77a0cf the MEDIT ASCII reader did not establish it
  when element lines lacked the reference column; `centres_differ_without_refs`
  records what `dual` does on such a mesh.
* `1 ≤ d` for the adjacency characterisation: candidates come from the
  node → elements index, so two cells are only compared if they share a node.
  For a vertices-only mesh (`d = 0`) the definition would join every pair:
  `vertices_only_not_complete`.  For `d = 1` (edges only) the graph is empty.
* cells without repeated nodes for symmetry: `dual_asymmetric_degenerate`.
No hypothesis on node ids: `run m = .ok g` already implies they are in range
(otherwise the run panics); `dual_total` is the converse.
-/

namespace Coupe.Dual

/-- Two cells are joined exactly when they are different and share at least
`d` nodes. -/
theorem dual_adj_iff (m : Mesh) (d : Nat) (g : Csr) (hwf : m.WF) (hd : topDim m = some d)
    (hd1 : 1 ≤ d) (h : run m = .ok g) (i j : Nat) (hi : i < g.size) :
    j ∈ g.row i ↔ i ≠ j ∧ j < g.size ∧ d ≤ commonCount (cell m d i) (cell m d j) := by
  obtain ⟨t, ht, hsz, hrow⟩ := rows_of_run m d g hwf hd h
  rw [hrow i hi, mem_rowSpec hd1 ht, hsz]
  exact Iff.rfl

/-- Symmetry (cells without repeated nodes). -/
theorem dual_symm (m : Mesh) (d : Nat) (g : Csr) (hwf : m.WF) (hd : topDim m = some d)
    (hd1 : 1 ≤ d) (hnd : ∀ ns ∈ elements d m, ns.Nodup) (h : run m = .ok g)
    (i j : Nat) (hi : i < g.size) (hj : j < g.size) :
    j ∈ g.row i ↔ i ∈ g.row j := by
  have hc : ∀ k, (cell m d k).Nodup := fun k => by
    unfold cell nodesOf
    cases hk : (elements d m)[k]? with
    | none => exact List.nodup_nil
    | some ns => exact hnd ns (List.mem_of_getElem? hk)
  rw [dual_adj_iff m d g hwf hd hd1 h i j hi, dual_adj_iff m d g hwf hd hd1 h j i hj,
    commonCount_comm (hc i) (hc j)]
  simp only [hi, hj, true_and, ne_comm]

/-- No self loop (any dimension, repeated nodes allowed). -/
theorem dual_no_loop (m : Mesh) (d : Nat) (g : Csr) (hwf : m.WF) (hd : topDim m = some d)
    (h : run m = .ok g) (i : Nat) (hi : i < g.size) : i ∉ g.row i := by
  obtain ⟨t, ht, _, hrow⟩ := rows_of_run m d g hwf hd h
  rw [hrow i hi]
  intro hmem
  exact (mem_rowSpec_imp ht hmem).1 rfl

/-- Rows are strictly increasing (sorted, no duplicate). -/
theorem dual_rows_sorted (m : Mesh) (d : Nat) (g : Csr) (hwf : m.WF) (hd : topDim m = some d)
    (h : run m = .ok g) (i : Nat) (hi : i < g.size) : (g.row i).Pairwise (· < ·) := by
  obtain ⟨t, _, _, hrow⟩ := rows_of_run m d g hwf hd h
  rw [hrow i hi]
  exact rowSpec_sorted _ _ _ _

/-- Column indices name graph vertices. -/
theorem dual_indices_lt (m : Mesh) (d : Nat) (g : Csr) (hwf : m.WF) (hd : topDim m = some d)
    (h : run m = .ok g) (i j : Nat) (hi : i < g.size) (hj : j ∈ g.row i) : j < g.size := by
  obtain ⟨t, ht, hsz, hrow⟩ := rows_of_run m d g hwf hd h
  rw [hrow i hi] at hj
  rw [hsz]
  exact (mem_rowSpec_imp ht hj).2.1

/-- One graph vertex per element of the highest dimension, edges excluded;
this is also the number of cell centres `barycentres` returns. -/
theorem dual_size (m : Mesh) (d : Nat) (g : Csr) (hwf : m.WF) (hd : topDim m = some d)
    (h : run m = .ok g) :
    g.size = ((m.blocks.filter (fun b => b.ty.dim == d && b.ty != .edge)).map Block.count).sum ∧
    g.size = barycentreCount m ∧ barycentres m = some g.size := by
  obtain ⟨t, _, hsz, _⟩ := rows_of_run m d g hwf hd h
  have hv := runWith_ok_valid id m d g hd h
  refine ⟨?_, ?_, ?_⟩
  · rw [hsz, cellCount, length_elements d m hwf]
  · simp [barycentreCount, hd, hsz, cellCount]
  · have hall : ((elements d m).all fun ns => ns.all (fun x => decide (x < m.nodeCount))) = true := by
      simp only [List.all_eq_true, decide_eq_true_eq]
      exact hv
    simp [barycentres, hd, hall, hsz, cellCount]

/-- The empty mesh gives the empty graph and no centre. -/
theorem dual_size_empty (m : Mesh) (hd : topDim m = none) :
    run m = .ok ⟨0, [0], [], 0⟩ ∧ barycentreCount m = 0 ∧ usedElementCount m = 0 := by
  simp [run, runWith, barycentreCount, usedElementCount, hd]

/-- `used_element_count` equals the number of graph vertices and of cell
centres, unless the highest dimension is 1 (see `counts_differ_edges_only`). -/
theorem counts_agree (m : Mesh) (d : Nat) (g : Csr) (hwf : m.WF) (hd : topDim m = some d)
    (hd1 : d ≠ 1) (h : run m = .ok g) :
    usedElementCount m = g.size ∧ barycentreCount m = g.size := by
  obtain ⟨t, _, hsz, _⟩ := rows_of_run m d g hwf hd h
  refine ⟨?_, ?_⟩
  · rw [usedElementCount_eq m d hwf hd hd1, hsz, cellCount]
  · simp [barycentreCount, hd, hsz, cellCount]

/-- `element_to_nodes` finds every element index: no underflow of
`e - start_idx`, no out-of-range slice, `unreachable!()` not reached. -/
theorem element_to_nodes_total (m : Mesh) (d : Nat) (hwf : m.WF) (e : Nat)
    (he : e < cellCount m d) :
    elementToNodes (chunksFrom 0 (keptBlocks d m)) e = some (cell m d e) := by
  have := elementToNodes_chunksFrom (keptBlocks d m) (aligned_of_wf d m hwf) 0 e
  rw [Nat.zero_add] at this
  rw [this, ← elements_eq_allElems d m hwf, cell, nodesOf, List.getElem?_eq_getElem he]
  rfl

/-- Totality: on a well-formed mesh whose cells name existing nodes `dual`
returns (no panic site is reached). -/
theorem dual_total (m : Mesh) (hwf : m.WF) (hv : ∀ d, topDim m = some d → CellsValid m d) :
    ∃ g, run m = .ok g := by
  cases hd : topDim m with
  | none => exact ⟨_, (dual_size_empty m hd).1⟩
  | some d =>
    obtain ⟨t, ht⟩ := nodeToElements_total (hv d hd)
    exact ⟨_, runWith_eq id (fun _ => .refl _) m d hwf hd ht⟩

/-- Schedules: whatever order the pool performs the writes to `indice_locks`
in, the outcome is the sequential one. -/
theorem dual_schedule_independent (sched : List (Nat × List Nat) → List (Nat × List Nat))
    (hs : ∀ ws, (sched ws).Perm ws) (m : Mesh) (hwf : m.WF) : runWith sched m = run m := by
  cases hd : topDim m with
  | none => simp [run, runWith, hd]
  | some d =>
    cases hn : nodeToElements m.nodeCount (elements d m) with
    | none => simp [run, runWith, hd, hn]
    | some t =>
      rw [run, runWith_eq sched hs m d hwf hd hn, runWith_eq id (fun _ => .refl _) m d hwf hd hn]

/-! ### Non-vacuity and the stated exceptions -/

/-- A triangle and a quadrangle sharing an edge, an edge block first. -/
def ex2d : Mesh :=
  ⟨5, [⟨.edge, [0, 1], 1⟩, ⟨.quadrangle, [1, 2, 3, 4], 1⟩, ⟨.triangle, [0, 1, 2], 1⟩]⟩

/-- A tetrahedron and a hexahedron sharing three nodes, a face block between. -/
def ex3d : Mesh :=
  ⟨9, [⟨.tetrahedron, [0, 1, 2, 8], 1⟩, ⟨.quadrilateral, [0, 1, 2, 3], 1⟩,
       ⟨.hexahedron, [0, 1, 2, 3, 4, 5, 6, 7], 1⟩]⟩

example : ex2d.WF ∧ topDim ex2d = some 2 ∧ (∀ ns ∈ elements 2 ex2d, ns.Nodup) ∧
    run ex2d = .ok ⟨2, [0, 1, 2], [1, 0], 2⟩ := by decide +kernel
example : ex3d.WF ∧ topDim ex3d = some 3 ∧ (∀ ns ∈ elements 3 ex3d, ns.Nodup) ∧
    run ex3d = .ok ⟨2, [0, 1, 2], [1, 0], 2⟩ := by decide +kernel

/-- Exception to `counts_agree`: on an edges-only mesh `used_element_count`
counts the edges, while the graph and the centres exclude them. -/
theorem counts_differ_edges_only :
    let m : Mesh := ⟨3, [⟨.edge, [0, 1, 1, 2], 2⟩]⟩
    m.WF ∧ topDim m = some 1 ∧ run m = .ok ⟨0, [0], [], 0⟩ ∧ barycentreCount m = 0 ∧
      usedElementCount m = 2 := by decide +kernel

/-- Exception to `dual_adj_iff` at `d = 0`: vertex elements on different nodes
share `0 ≥ d` nodes but are not joined (they are never compared). -/
theorem vertices_only_not_complete :
    let m : Mesh := ⟨3, [⟨.vertex, [0, 1, 1], 3⟩]⟩
    m.WF ∧ topDim m = some 0 ∧ run m = .ok ⟨3, [0, 0, 1, 2], [2, 1], 2⟩ := by decide +kernel

/-- Exception to `dual_symm`: a triangle with a repeated node counts the shared
node twice from its side only. -/
theorem dual_asymmetric_degenerate :
    let m : Mesh := ⟨4, [⟨.triangle, [0, 0, 1, 0, 2, 3], 2⟩]⟩
    m.WF ∧ topDim m = some 2 ∧ run m = .ok ⟨2, [0, 1, 1], [1], 1⟩ := by decide +kernel

/-- Outside `Mesh.WF` (MEDIT element lines without a reference column, which
the ASCII reader stored as they were before /repo f77a0cf): `Mesh::elements`
stops at the last reference, so the centres and the graph vertices differ and
the adjacency is lost. -/
theorem centres_differ_without_refs :
    let m : Mesh := ⟨4, [⟨.triangle, [0, 1, 2, 1, 2, 3], 0⟩]⟩
    ¬ m.WF ∧ run m = .ok ⟨2, [0, 0, 0], [], 0⟩ ∧ barycentres m = some 0 ∧
      usedElementCount m = 2 := by decide +kernel

end Coupe.Dual

#print axioms Coupe.Dual.dual_adj_iff
#print axioms Coupe.Dual.dual_symm
#print axioms Coupe.Dual.dual_no_loop
#print axioms Coupe.Dual.dual_rows_sorted
#print axioms Coupe.Dual.dual_indices_lt
#print axioms Coupe.Dual.dual_size
#print axioms Coupe.Dual.dual_size_empty
#print axioms Coupe.Dual.counts_agree
#print axioms Coupe.Dual.element_to_nodes_total
#print axioms Coupe.Dual.dual_total
#print axioms Coupe.Dual.dual_schedule_independent
#print axioms Coupe.Dual.counts_differ_edges_only
#print axioms Coupe.Dual.vertices_only_not_complete
#print axioms Coupe.Dual.dual_asymmetric_degenerate
#print axioms Coupe.Dual.centres_differ_without_refs
