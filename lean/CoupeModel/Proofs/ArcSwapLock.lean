import CoupeModel.Proofs.ArcSwapWf

/-!
# ArcSwap: the vertex-lock protocol

`LS` abstracts a program counter to its role in the lock protocol, `LStep` is the
protocol's transition relation, `LockInv` the protocol invariant:

* `held`/`uniq`: `locks[v]` is set iff exactly one task holds `v`;
* `J`: if task `i` holds `v` and has already read the lock of `u` as free (`passed`),
  any other task holding `u` acquired it later, hence has not yet read the lock of `v`
  (`pending`: it will find it set and give up) or has already given up (`raced`).

`LockInv` is preserved by every protocol step on a graph with symmetric adjacency
(`lockInv_step`: a step takes a lock, releases one, or does neither, `LockInv.step_acquire`,
`step_release`, `step_holding`), and every model step is a protocol step (`TStep.lstep`).
Consequence (`LockInv.excl`): two adjacent vertices are never both validated-held.
-/

namespace Coupe.ArcSwap

inductive LS where
  | free
  /-- holds `v`, has read the locks of its first `k` neighbours as free -/
  | checking (v k : Nat)
  /-- holds `v`, has read all neighbour locks as free -/
  | valid (v : Nat)
  /-- holds `v`, saw a locked neighbour, about to release -/
  | raced (v : Nat)
deriving DecidableEq

def Pc.ls : Pc → LS
  | .nbrLock v k => .checking v k
  | .ownPart v => .valid v
  | .gainRd v _ _ _ _ _ => .valid v
  | .store v _ _ _ => .valid v
  | .unlock v .raced => .raced v
  | .unlock v _ => .valid v
  | _ => .free

def LS.holds : LS → Option Nat
  | .free => none
  | .checking v _ => some v
  | .valid v => some v
  | .raced v => some v

def Adj (g : Graph) (a b : Nat) : Prop := ∃ j, j < deg g a ∧ nbr g a j = b

def SymAdj (g : Graph) : Prop := ∀ a b, Adj g a b → Adj g b a

def LSOk (g : Graph) : LS → Prop
  | .free => True
  | .checking v k => v < g.length ∧ k < deg g v
  | .valid v => v < g.length
  | .raced v => v < g.length

def passed (g : Graph) : LS → Nat → Prop
  | .checking v k, u => ∃ j, j < k ∧ nbr g v j = u
  | .valid v, u => Adj g v u
  | _, _ => False

def pending (g : Graph) : LS → Nat → Prop
  | .checking u k, v => ∃ j, k ≤ j ∧ j < deg g u ∧ nbr g u j = v
  | .raced _, _ => True
  | _, _ => False

inductive LStep (g : Graph) (locks : List Bool) : LS → Event → LS → Prop
  | acquireIsolated (v : Nat) : v < g.length → locks.getD v false = false → deg g v = 0 →
      LStep g locks .free (.cas v true) (.valid v)
  | acquire (v : Nat) : v < g.length → locks.getD v false = false → deg g v ≠ 0 →
      LStep g locks .free (.cas v true) (.checking v 0)
  | checkRaced (v k : Nat) : locks.getD (nbr g v k) false = true →
      LStep g locks (.checking v k) (.lockLoad (nbr g v k) true) (.raced v)
  | checkNext (v k : Nat) : locks.getD (nbr g v k) false = false → k + 1 < deg g v →
      LStep g locks (.checking v k) (.lockLoad (nbr g v k) false) (.checking v (k + 1))
  | checkLast (v k : Nat) : locks.getD (nbr g v k) false = false → ¬ k + 1 < deg g v →
      LStep g locks (.checking v k) (.lockLoad (nbr g v k) false) (.valid v)
  | release (l l' : LS) (v : Nat) : (l = .valid v ∨ l = .raced v) → l' = .free →
      LStep g locks l (.lockStore v false) l'
  | silent (l l' : LS) (ev : Event) : l' = l → ev.applyLocks locks = locks → LStep g locks l ev l'

structure LockInv (g : Graph) (locks : List Bool) (L : Nat → Option LS) : Prop where
  len : locks.length = g.length
  ok : ∀ i l, L i = some l → LSOk g l
  held : ∀ v, locks.getD v false = true ↔ ∃ i l, L i = some l ∧ l.holds = some v
  uniq : ∀ i j li lj v, L i = some li → L j = some lj → li.holds = some v → lj.holds = some v → i = j
  J : ∀ i j li lj v u, i ≠ j → L i = some li → L j = some lj → li.holds = some v → lj.holds = some u →
        passed g li u → pending g lj v

theorem LSOk.holds_lt {g : Graph} {l : LS} {v : Nat} (h : LSOk g l) (hv : l.holds = some v) : v < g.length := by
  cases l with
  | free => cases hv
  | checking a k => cases hv; exact h.1
  | valid a => cases hv; exact h
  | raced a => cases hv; exact h

theorem passed_adj {g : Graph} {l : LS} {x u : Nat} (hok : LSOk g l) (hh : l.holds = some x)
    (hp : passed g l u) : Adj g x u := by
  cases l with
  | free => cases hh
  | raced a => exact hp.elim
  | valid a => cases hh; exact hp
  | checking a k =>
    cases hh
    obtain ⟨jj, hjj, he⟩ := hp
    exact ⟨jj, Nat.lt_trans hjj hok.2, he⟩

section
variable {g : Graph} {locks : List Bool} {L L' : Nat → Option LS} {tid : Nat} {l l' : LS}

theorem upd_get (hL' : ∀ i, L' i = if i = tid then some l' else L i) {i : Nat} {li : LS} (hi : L' i = some li) :
    i = tid ∧ li = l' ∨ i ≠ tid ∧ L i = some li := by
  rw [hL'] at hi
  by_cases hit : i = tid
  · rw [if_pos hit] at hi; cases hi; exact .inl ⟨hit, rfl⟩
  · rw [if_neg hit] at hi; exact .inr ⟨hit, hi⟩

theorem upd_put (hL' : ∀ i, L' i = if i = tid then some l' else L i) {i : Nat} {li : LS} (hi : i ≠ tid)
    (h : L i = some li) : L' i = some li := by
  rw [hL', if_neg hi, h]

theorem upd_ok (hinv : LockInv g locks L) (hL' : ∀ i, L' i = if i = tid then some l' else L i) (h : LSOk g l') :
    ∀ i li, L' i = some li → LSOk g li :=
  fun i li hi => (upd_get hL' hi).elim (fun e => e.2 ▸ h) fun e => hinv.ok i li e.2

/-- A step of `tid` that neither takes nor releases a lock keeps the invariant if `tid` newly
passes a vertex only when its lock is free, and stops pending for a vertex only when its lock
is free: a holder of that vertex would have the lock set. -/
theorem LockInv.step_holding (hinv : LockInv g locks L) (hl : L tid = some l)
    (hL' : ∀ i, L' i = if i = tid then some l' else L i) (hok' : LSOk g l') (hh : l'.holds = l.holds)
    (hpass : ∀ u, passed g l' u → passed g l u ∨ locks.getD u false = false)
    (hpend : ∀ x, pending g l x → pending g l' x ∨ locks.getD x false = false) : LockInv g locks L' := by
  have hold : ∀ {i li x}, L' i = some li → li.holds = some x → ∃ li₀, L i = some li₀ ∧ li₀.holds = some x := by
    intro i li x hi hx
    rcases upd_get hL' hi with ⟨rfl, rfl⟩ | ⟨-, hi⟩
    · exact ⟨l, hl, hh ▸ hx⟩
    · exact ⟨li, hi, hx⟩
  have hlocked : ∀ {m lm x}, L m = some lm → lm.holds = some x → locks.getD x false ≠ false :=
    fun hm hx hf => by rw [(hinv.held _).2 ⟨_, _, hm, hx⟩] at hf; cases hf
  refine ⟨hinv.len, upd_ok hinv hL' hok', fun x => (hinv.held x).trans ⟨?_, ?_⟩, ?_, ?_⟩
  · rintro ⟨i, li, hi, hx⟩
    by_cases hit : i = tid
    · subst hit; rw [hl] at hi; cases hi
      exact ⟨i, l', by rw [hL', if_pos rfl], hh.trans hx⟩
    · exact ⟨i, li, upd_put hL' hit hi, hx⟩
  · rintro ⟨i, li, hi, hx⟩
    obtain ⟨li₀, h1, h2⟩ := hold hi hx
    exact ⟨i, li₀, h1, h2⟩
  · intro i j li lj x hi hj hxi hxj
    obtain ⟨li₀, h1, h2⟩ := hold hi hxi
    obtain ⟨lj₀, h3, h4⟩ := hold hj hxj
    exact hinv.uniq i j li₀ lj₀ x h1 h3 h2 h4
  · intro i j li lj x u hij hi hj hxi hxj hp
    rcases upd_get hL' hi with ⟨rfl, rfl⟩ | ⟨hit, hi⟩
    · rcases upd_get hL' hj with ⟨hjt, -⟩ | ⟨-, hj⟩
      · exact absurd hjt.symm hij
      rcases hpass u hp with hp | hf
      · exact hinv.J i j l lj x u hij hl hj (hh ▸ hxi) hxj hp
      · exact absurd hf (hlocked hj hxj)
    rcases upd_get hL' hj with ⟨rfl, rfl⟩ | ⟨hjt, hj⟩
    · rcases hpend x (hinv.J i j li l x u hij hi hl hxi (hh ▸ hxj) hp) with h | hf
      · exact h
      · exact absurd hf (hlocked hi hxi)
    · exact hinv.J i j li lj x u hij hi hj hxi hxj hp

/-- Taking the free lock of `v`: the new holder has passed nobody yet, and is pending for every
neighbour of `v`, in particular for those whose holders have already passed `v`. -/
theorem LockInv.step_acquire (hsym : SymAdj g) (hinv : LockInv g locks L) (hl : L tid = some .free)
    (hL' : ∀ i, L' i = if i = tid then some l' else L i) {v : Nat} (hv : v < g.length)
    (hfree : locks.getD v false = false) (hok' : LSOk g l') (hh : l'.holds = some v)
    (hpass : ∀ u, ¬ passed g l' u) (hpend : ∀ x, Adj g v x → pending g l' x) :
    LockInv g (locks.set v true) L' := by
  have hnobody : ∀ i li, L i = some li → li.holds ≠ some v := by
    intro i li hi hx
    rw [(hinv.held v).2 ⟨i, li, hi, hx⟩] at hfree; cases hfree
  refine ⟨by rw [List.length_set, hinv.len], upd_ok hinv hL' hok', fun x => ?_, ?_, ?_⟩
  · by_cases hx : v = x
    · subst hx
      rw [getD_set_self _ _ _ _ (hinv.len ▸ hv)]
      exact ⟨fun _ => ⟨tid, l', by rw [hL', if_pos rfl], hh⟩, fun _ => rfl⟩
    · rw [getD_set_ne _ _ _ _ _ hx, hinv.held x]
      constructor
      · rintro ⟨i, li, hi, hxi⟩
        refine ⟨i, li, upd_put hL' ?_ hi, hxi⟩
        rintro rfl; rw [hl] at hi; cases hi; cases hxi
      · rintro ⟨i, li, hi, hxi⟩
        rcases upd_get hL' hi with ⟨-, rfl⟩ | ⟨-, hi⟩
        · rw [hh] at hxi; cases hxi; exact absurd rfl hx
        · exact ⟨i, li, hi, hxi⟩
  · intro i j li lj x hi hj hxi hxj
    rcases upd_get hL' hi with ⟨rfl, rfl⟩ | ⟨hit, hi⟩ <;> rcases upd_get hL' hj with ⟨hjt, rfl⟩ | ⟨hjt, hj⟩
    · exact hjt.symm
    · rw [hh] at hxi; cases hxi; exact absurd hxj (hnobody j lj hj)
    · rw [hh] at hxj; cases hxj; exact absurd hxi (hnobody i li hi)
    · exact hinv.uniq i j li lj x hi hj hxi hxj
  · intro i j li lj x u hij hi hj hxi hxj hp
    rcases upd_get hL' hi with ⟨-, rfl⟩ | ⟨hit, hi⟩
    · exact absurd hp (hpass u)
    rcases upd_get hL' hj with ⟨-, rfl⟩ | ⟨hjt, hj⟩
    · rw [hh] at hxj; cases hxj
      -- `i` holds `x` and has passed `v`: `v` is adjacent to `x`, hence `x` to `v`
      exact hpend x (hsym x v (passed_adj (hinv.ok i li hi) hxi hp))
    · exact hinv.J i j li lj x u hij hi hj hxi hxj hp

theorem LockInv.step_release (hinv : LockInv g locks L) (hl : L tid = some l)
    (hL' : ∀ i, L' i = if i = tid then some .free else L i) {v : Nat} (hh : l.holds = some v) :
    LockInv g (locks.set v false) L' := by
  have hvlt : v < locks.length := hinv.len ▸ (hinv.ok tid l hl).holds_lt hh
  have hold : ∀ {i li x}, L' i = some li → li.holds = some x → i ≠ tid ∧ L i = some li := by
    intro i li x hi hx
    rcases upd_get hL' hi with ⟨-, rfl⟩ | h
    · cases hx
    · exact h
  refine ⟨by rw [List.length_set, hinv.len], upd_ok hinv hL' trivial, fun x => ?_, ?_, ?_⟩
  · by_cases hx : v = x
    · subst hx
      rw [getD_set_self _ _ _ _ hvlt]
      refine ⟨nofun, fun ⟨i, li, hi, hxi⟩ => ?_⟩
      obtain ⟨hit, hi⟩ := hold hi hxi
      exact absurd (hinv.uniq i tid li l v hi hl hxi hh) hit
    · rw [getD_set_ne _ _ _ _ _ hx, hinv.held x]
      constructor
      · rintro ⟨i, li, hi, hxi⟩
        refine ⟨i, li, upd_put hL' ?_ hi, hxi⟩
        rintro rfl; rw [hl] at hi; cases hi; rw [hh] at hxi; cases hxi; exact hx rfl
      · rintro ⟨i, li, hi, hxi⟩
        exact ⟨i, li, (hold hi hxi).2, hxi⟩
  · intro i j li lj x hi hj hxi hxj
    exact hinv.uniq i j li lj x (hold hi hxi).2 (hold hj hxj).2 hxi hxj
  · intro i j li lj x u hij hi hj hxi hxj
    exact hinv.J i j li lj x u hij (hold hi hxi).2 (hold hj hxj).2 hxi hxj

end

theorem lockInv_step {g : Graph} (hsym : SymAdj g) {locks : List Bool} {L L' : Nat → Option LS}
    {tid : Nat} {l l' : LS} {ev : Event}
    (hinv : LockInv g locks L) (hl : L tid = some l) (hst : LStep g locks l ev l')
    (hL' : ∀ i, L' i = if i = tid then some l' else L i) :
    LockInv g (ev.applyLocks locks) L' := by
  have hlk := hinv.ok tid _ hl
  cases hst with
  | silent _ _ _ e hsame =>
    subst e
    rw [hsame]
    exact hinv.step_holding hl hL' hlk rfl (fun _ => .inl) fun _ => .inl
  | release _ _ v hv e =>
    subst e
    exact hinv.step_release hl hL' (by rcases hv with rfl | rfl <;> rfl)
  | acquireIsolated v hv hfree hd =>
    exact hinv.step_acquire hsym hl hL' hv hfree hv rfl (fun u ⟨j, hj, _⟩ => by omega) fun x ⟨j, hj, _⟩ => by omega
  | acquire v hv hfree hd =>
    exact hinv.step_acquire hsym hl hL' hv hfree ⟨hv, by omega⟩ rfl (fun u ⟨j, hj, _⟩ => by omega)
      fun x ⟨j, hj, he⟩ => ⟨j, Nat.zero_le _, hj, he⟩
  | checkRaced v k => exact hinv.step_holding hl hL' hlk.1 rfl (fun _ hp => hp.elim) fun _ _ => .inl trivial
  | checkNext v k hfree hk =>
    -- the one vertex newly passed, and no longer pending for, is `nbr g v k`, whose lock was read as free
    refine hinv.step_holding hl hL' ⟨hlk.1, hk⟩ rfl ?_ ?_
    · rintro u ⟨j, hj, rfl⟩
      by_cases hjk : j = k
      · exact .inr (hjk ▸ hfree)
      · exact .inl ⟨j, by omega, rfl⟩
    · rintro x ⟨j, hkj, hjd, rfl⟩
      by_cases hjk : j = k
      · exact .inr (hjk ▸ hfree)
      · exact .inl ⟨j, by omega, hjd, rfl⟩
  | checkLast v k hfree hk =>
    refine hinv.step_holding hl hL' hlk.1 rfl ?_ ?_
    · rintro u ⟨j, hj, rfl⟩
      by_cases hjk : j = k
      · exact .inr (hjk ▸ hfree)
      · exact .inl ⟨j, by omega, rfl⟩
    · rintro x ⟨j, hkj, hjd, rfl⟩
      exact .inr ((show j = k by omega) ▸ hfree)

theorem LockInv.excl {g : Graph} {locks : List Bool} {L : Nat → Option LS} (h : LockInv g locks L)
    {i j v u : Nat} (hij : i ≠ j) (hi : L i = some (.valid v)) (hj : L j = some (.valid u)) :
    ¬ Adj g v u := by
  intro hadj
  exact h.J i j _ _ v u hij hi hj rfl rfl hadj

theorem nextScan_ls (t : Task) : (nextScan t).pc.ls = .free := by
  unfold nextScan
  split_ifs <;> rfl

theorem popCut_ls (t : Task) : (popCut t).pc.ls = .free := by
  unfold popCut
  split
  · exact nextScan_ls t
  · rfl

theorem postNext_ls (c : Cfg) (t : Task) (mv k : Nat) : (postNext c t mv k).pc.ls = .free := by
  unfold postNext
  split_ifs
  · rfl
  · exact popCut_ls t

variable {c : Cfg} {parts : List Nat} {locks : List Bool} {tmax : List Int} {t t' : Task} {ev : Event}

theorem TStep.lstep (hp2 : 2 ≤ c.partCount) {pc : Pc} (hs : TStep c tmax t pc t' ev)
    (hrd : ev.Reads parts locks) (hok : PcOk c c.g.length pc) : LStep c.g locks pc.ls ev t'.pc.ls := by
  cases hs with
  | begin | beginEmpty | scanFirst | scanNext | ownIsolated | ownFirst | gainNext | gainTarget | gainNone
  | gainOverCap | gainStore | store | postFirst | postGainNext | postGainTarget | finish => exact .silent _ _ _ rfl rfl
  | scanIsolated | scanLast => exact .silent _ _ _ (nextScan_ls t) rfl
  | scanCut | casFail => exact .silent _ _ _ (popCut_ls _) rfl
  | postIsolated | postGainPush | postGainSkip => exact .silent _ _ _ (postNext_ls ..) rfl
  | ownPanic _ h | postPanic _ h => exact absurd h (nextTarget_zero_ne_none hp2)
  | casIsolated h => exact .acquireIsolated _ hok hrd h
  | casFirst h => exact .acquire _ hok hrd h
  | lockRaced => exact .checkRaced _ _ hrd
  | lockNext h => exact .checkNext _ _ hrd h
  | lockLast h => exact .checkLast _ _ hrd h
  | unlockPost => exact .release _ _ _ (.inl rfl) rfl
  | @unlockPop v a => exact .release _ _ v (by cases a <;> simp [Pc.ls]) (popCut_ls t)

theorem TStep.store_inv {pc : Pc} {v p : Nat} (hs : TStep c tmax t pc t' (.partStore v p)) :
    ∃ ip gain, pc = .store v ip p gain ∧
      t' = { t with
            md := { t.md with moveCount := t.md.moveCount + 1, edgeCutGain := t.md.edgeCutGain + gain }
            pw := addAt (addAt t.pw ip (-(c.w.getD v 0))) p (c.w.getD v 0)
            pc := .unlock v .moved } := by
  cases hs
  exact ⟨_, _, rfl, rfl⟩

end Coupe.ArcSwap
