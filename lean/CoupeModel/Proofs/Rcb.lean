import CoupeModel.Model.Rcb

/-!
# The Rcb model, loop by loop (C03)

Each loop of the model is unfolded in one place: `scanL_spec`, `scanR_spec`, `partLoop_spec` for
`reorder_split_scalar`; `split_succ_cases` (one round of the cut search, by cases) and, on top of
it, `split_ok_inv` (a run that returns); `recurse_succ` (one level of `rcb_recurse`, in `Res.bind`
form); `runBB_cases`.
-/

namespace Coupe.Rcb

variable {α : Type} [Coord α]

theorem intOrderLaws : OrderLawsOn (α := Int) (fun _ => True) where
  le_iff := by intro a b _ _; simp only [Coord.le, Coord.lt]; by_cases h : a ≤ b <;> simp [h] <;> omega
  irrefl := by intro a _; simp [Coord.lt]
  neg_trans := by
    intro a b c _ _ _ h1 h2
    simp only [Coord.lt, decide_eq_true_eq, decide_eq_false_iff_not] at *
    omega

theorem Res.bind_eq_ok {β γ : Type} {x : Res β} {f : β → Res γ} {v : γ} (h : x.bind f = .ok v) :
    ∃ a, x = .ok a ∧ f a = .ok v := by
  cases x with
  | ok a => exact ⟨a, rfl, h⟩
  | oob => cases h
  | fuel => cases h

theorem Res.bind_ne_oob {β γ : Type} {x : Res β} {f : β → Res γ} (hx : x ≠ .oob)
    (hf : ∀ a, x = .ok a → f a ≠ .oob) : x.bind f ≠ .oob := by
  cases x with
  | ok a => exact hf a rfl
  | oob => exact absurd rfl hx
  | fuel => nofun

theorem Res.bind_ne_fuel {β γ : Type} {x : Res β} {f : β → Res γ} (hx : x ≠ .fuel)
    (hf : ∀ a, x = .ok a → f a ≠ .fuel) : x.bind f ≠ .fuel := by
  cases x with
  | ok a => exact hf a rfl
  | oob => nofun
  | fuel => exact absurd rfl hx

theorem swapAt_spec {β : Type} {a a' : Array β} {i j : Nat} (h : swapAt a i j = some a') :
    i < a.size ∧ j < a.size ∧ a'.Perm a ∧ a'[i]? = a[j]? ∧ a'[j]? = a[i]? ∧
      ∀ k, k ≠ i → k ≠ j → a'[k]? = a[k]? := by
  unfold swapAt at h
  split at h
  · next hb =>
    cases h
    refine ⟨hb.1, hb.2, Array.swap_perm hb.1 hb.2, ?_, ?_, ?_⟩
    · rw [Array.getElem?_swap, Array.getElem?_eq_getElem hb.2]
      split
      · next e => subst e; rfl
      · rw [if_pos rfl]
    · rw [Array.getElem?_swap, if_pos rfl, Array.getElem?_eq_getElem hb.1]
    · intro k hki hkj
      rw [Array.getElem?_swap, if_neg (Ne.symm hkj), if_neg (Ne.symm hki)]
  · cases h

theorem swapAt_isSome {β : Type} {a : Array β} {i j : Nat} (hi : i < a.size) (hj : j < a.size) :
    ∃ a', swapAt a i j = some a' :=
  ⟨_, dif_pos ⟨hi, hj⟩⟩

/-! `reorder_split_scalar`: index 0 of the array holds the pivot, the loops work on the indices
from 1 on. -/

theorem scanL_spec (a : Array (Item α)) (coord : Nat) (pv : α) :
    ∀ (g l r : Nat), l + g = r → r < a.size →
      ∃ l', scanL a coord pv g l = .ok l' ∧ l ≤ l' ∧ l' ≤ r ∧
        (∀ k x, l < k → k ≤ l' → a[k]? = some x → Coord.lt (x.key coord) pv = true) ∧
        (l' = r ∨ ∃ x, a[l' + 1]? = some x ∧ Coord.lt (x.key coord) pv = false) := by
  intro g
  induction g with
  | zero =>
    intro l r hlr _
    exact ⟨l, rfl, Nat.le_refl _, Nat.le_of_eq hlr, fun k x h1 h2 => absurd h2 (Nat.not_le_of_lt h1),
      .inl hlr⟩
  | succ g ih =>
    intro l r hlr hb
    -- the item is named: writing `a[l + 1]` makes Lean search for the bound at every occurrence
    obtain ⟨y, hget⟩ : ∃ y, a[l + 1]? = some y :=
      ⟨_, Array.getElem?_eq_getElem (show l + 1 < a.size by omega)⟩
    simp only [scanL, hget]
    by_cases hc : Coord.lt (y.key coord) pv = true
    · rw [if_pos hc]
      obtain ⟨l', h1, h2, h3, h4, h5⟩ := ih (l + 1) r ((Nat.add_right_comm l 1 g).trans hlr) hb
      refine ⟨l', h1, Nat.le_of_succ_le h2, h3, fun k x hk1 hk2 hx => ?_, h5⟩
      rcases Nat.eq_or_lt_of_le hk1 with e | hlt
      · subst e; rw [hget] at hx; cases hx; exact hc
      · exact h4 k x hlt hk2 hx
    · rw [if_neg hc]
      exact ⟨l, rfl, Nat.le_refl _, hlr ▸ Nat.le_add_right l (g + 1),
        fun k x h1 h2 => absurd h2 (Nat.not_le_of_lt h1), .inr ⟨_, hget, Bool.eq_false_iff.2 hc⟩⟩

/-- The downward scan tests `pv <= key`; `hle` lets the result speak of `key < pv` alone. -/
theorem scanR_spec (a : Array (Item α)) (coord : Nat) (pv : α)
    (hle : ∀ x ∈ a, Coord.le pv (x.key coord) = !Coord.lt (x.key coord) pv) :
    ∀ (g r b : Nat), b + g = r → r < a.size →
      ∃ r', scanR a coord pv g r = .ok r' ∧ b ≤ r' ∧ r' ≤ r ∧
        (∀ k x, r' < k → k ≤ r → a[k]? = some x → Coord.lt (x.key coord) pv = false) ∧
        (r' = b ∨ ∃ x, a[r']? = some x ∧ Coord.lt (x.key coord) pv = true) := by
  intro g
  induction g with
  | zero =>
    intro r b hbr _
    exact ⟨r, rfl, Nat.le_of_eq hbr, Nat.le_refl _, fun k x h1 h2 => absurd h2 (Nat.not_le_of_lt h1),
      .inl hbr.symm⟩
  | succ g ih =>
    intro r b hbr hb
    obtain rfl : r = b + g + 1 := hbr.symm
    obtain ⟨y, hget⟩ : ∃ y, a[b + g + 1]? = some y := ⟨_, Array.getElem?_eq_getElem hb⟩
    simp only [scanR, hget, hle y (Array.mem_of_getElem? hget), Nat.add_sub_cancel]
    by_cases hc : Coord.lt (y.key coord) pv = true
    · simp only [hc, Bool.not_true, Bool.false_eq_true, if_false]
      exact ⟨b + g + 1, rfl, Nat.le_add_right b (g + 1), Nat.le_refl _,
        fun k x h1 h2 => absurd h2 (Nat.not_le_of_lt h1), .inr ⟨_, hget, hc⟩⟩
    · have hc' := Bool.eq_false_iff.2 hc
      simp only [hc', Bool.not_false, if_true]
      obtain ⟨r', h1, h2, h3, h4, h5⟩ := ih (b + g) b rfl (Nat.lt_of_succ_lt hb)
      refine ⟨r', h1, h2, Nat.le_succ_of_le h3, fun k x hk1 hk2 hx => ?_, h5⟩
      rcases Nat.eq_or_lt_of_le hk2 with e | hlt
      · subst e; rw [hget] at hx; cases hx; exact hc'
      · exact h4 k x hk1 (Nat.le_of_lt_succ hlt) hx

theorem partLoop_spec (coord : Nat) (pv : α) :
    ∀ (f : Nat) (a : Array (Item α)) (l r : Nat),
      r < f + l → l ≤ r → r < a.size →
      (∀ x ∈ a, Coord.le pv (x.key coord) = !Coord.lt (x.key coord) pv) →
      (∀ k x, 0 < k → k ≤ l → a[k]? = some x → Coord.lt (x.key coord) pv = true) →
      (∀ k x, r < k → a[k]? = some x → Coord.lt (x.key coord) pv = false) →
      ∃ a' l', partLoop coord pv f a l r = .ok (a', l') ∧ a'.Perm a ∧ a'[0]? = a[0]? ∧
        l' < a.size ∧
        (∀ k x, 0 < k → k ≤ l' → a'[k]? = some x → Coord.lt (x.key coord) pv = true) ∧
        (∀ k x, l' < k → a'[k]? = some x → Coord.lt (x.key coord) pv = false) := by
  intro f
  induction f with
  | zero => intro a l r hf hlr; omega
  | succ f ih =>
    intro a l r hf hlr hb hle hlow hhigh
    obtain ⟨l1, e1, hl1, hl1', hlow1, hstop1⟩ :=
      scanL_spec a coord pv (r - l) l r (Nat.add_sub_of_le hlr) hb
    obtain ⟨r1, e2, hr1, hr1', hhigh1, hstop2⟩ :=
      scanR_spec a coord pv hle (r - l1) r l1 (Nat.add_sub_of_le hl1') hb
    have hlowAll : ∀ k x, 0 < k → k ≤ l1 → a[k]? = some x → Coord.lt (x.key coord) pv = true :=
      fun k x h0 hk hx =>
        if hkl : k ≤ l then hlow k x h0 hkl hx else hlow1 k x (Nat.lt_of_not_le hkl) hk hx
    have hhighAll : ∀ k x, r1 < k → a[k]? = some x → Coord.lt (x.key coord) pv = false :=
      fun k x hk hx =>
        if hkr : k ≤ r then hhigh1 k x hk hkr hx else hhigh k x (Nat.lt_of_not_le hkr) hx
    by_cases hrl : r1 ≤ l1
    · obtain rfl : r1 = l1 := Nat.le_antisymm hrl hr1
      simp only [partLoop, e1, e2, hrl, if_true]
      exact ⟨a, r1, rfl, .refl _, rfl, Nat.lt_of_le_of_lt hr1' hb, hlowAll, hhighAll⟩
    · -- both scans stopped at an item: a key not `< pv` at `l1 + 1`, a key `< pv` at `r1`
      obtain ⟨xl, hxl, hxl'⟩ := hstop1.resolve_left fun e => hrl (e ▸ hr1')
      obtain ⟨xr, hxr, hxr'⟩ := hstop2.resolve_left fun e => hrl (Nat.le_of_eq e)
      obtain ⟨d, rfl⟩ := Nat.exists_eq_add_of_lt (Nat.lt_of_not_le hrl)
      have hd : 0 < d := Nat.pos_of_ne_zero <| by
        rintro rfl
        rw [hxl] at hxr; cases hxr
        rw [hxl'] at hxr'; cases hxr'
      have h1d : l1 + 1 ≤ l1 + d := Nat.add_le_add_left hd l1
      have hr1b : l1 + d + 1 < a.size := Nat.lt_of_le_of_lt hr1' hb
      obtain ⟨a1, es⟩ := swapAt_isSome (a := a) (i := l1 + 1) (j := l1 + d + 1)
        (Nat.lt_of_le_of_lt h1d (Nat.lt_of_succ_lt hr1b)) hr1b
      obtain ⟨_, _, hperm, hsi, hsj, hsk⟩ := swapAt_spec es
      simp only [partLoop, e1, e2, hrl, if_false, es, Nat.add_sub_cancel]
      obtain ⟨a', l', e3, hp', h0', hb', hlow', hhigh'⟩ :=
        ih a1 (l1 + 1) (l1 + d) (by omega) h1d (hperm.size_eq ▸ Nat.lt_of_succ_lt hr1b)
          (fun x hx => hle x (hperm.mem_iff.1 hx))
          (fun k x h0 hk hx => by
            rcases Nat.eq_or_lt_of_le hk with e | hlt
            · subst e; rw [hsi, hxr] at hx; cases hx; exact hxr'
            · have hk' : k < l1 + d + 1 := Nat.lt_of_lt_of_le hlt (Nat.le_succ_of_le h1d)
              rw [hsk k (Nat.ne_of_lt hlt) (Nat.ne_of_lt hk')] at hx
              exact hlowAll k x h0 (Nat.le_of_lt_succ hlt) hx)
          (fun k x hk hx => by
            by_cases hkr : k = l1 + d + 1
            · subst hkr; rw [hsj, hxl] at hx; cases hx; exact hxl'
            · rw [hsk k (Nat.ne_of_gt (Nat.lt_of_le_of_lt h1d hk)) hkr] at hx
              exact hhighAll k x (Nat.lt_of_le_of_ne hk (Ne.symm hkr)) hx)
      refine ⟨a', l', e3, hp'.trans hperm, ?_, hperm.size_eq ▸ hb', hlow', hhigh'⟩
      rw [h0', hsk 0 (Nat.succ_ne_zero _).symm (Nat.succ_ne_zero _).symm]

/-- `reorderSplit_spec` of Props/C03.  Of the order laws only `le_iff` and `irrefl` are used, and
only against the pivot's key. -/
theorem reorderSplit_spec_aux {S : α → Prop} (laws : OrderLawsOn S) {items : List (Item α)}
    {pivot coord : Nat} {p : Item α} (hS : ∀ x ∈ items, S (x.key coord))
    (hp : items[pivot]? = some p) :
    ∃ l r, reorderSplit items pivot coord = .ok (l, r) ∧ (l ++ r).Perm items ∧
      (∀ x ∈ l, Coord.lt (x.key coord) (p.key coord) = true) ∧
      (∀ x ∈ r, Coord.lt (x.key coord) (p.key coord) = false) ∧ p ∈ r := by
  have hpS := hS p (List.mem_of_getElem? hp)
  have hle : ∀ x ∈ items,
      Coord.le (p.key coord) (x.key coord) = !Coord.lt (x.key coord) (p.key coord) :=
    fun x hx => laws.le_iff _ _ hpS (hS x hx)
  have hirr := laws.irrefl _ hpS
  have hpl : pivot < items.toArray.size := (List.getElem?_eq_some_iff.1 hp).1
  obtain ⟨a1, e1⟩ := swapAt_isSome (Nat.zero_lt_of_lt hpl) hpl
  obtain ⟨_, _, hperm1, h10, _, _⟩ := swapAt_spec e1
  replace h10 : a1[0]? = some p := h10.trans (List.getElem?_toArray.trans hp)
  have hpos : 0 < a1.size := hperm1.size_eq ▸ Nat.zero_lt_of_lt hpl
  obtain ⟨a2, l', e2, hperm2, h20, hb2, hlow, hhigh⟩ :=
    partLoop_spec coord (p.key coord) a1.size a1 0 (a1.size - 1) (Nat.sub_one_lt (Nat.ne_of_gt hpos))
      (Nat.zero_le _) (Nat.sub_one_lt (Nat.ne_of_gt hpos))
      (fun x hx => hle x (by simpa using hperm1.mem_iff.1 hx))
      (fun k x h0 hk => absurd h0 (Nat.not_lt_of_le hk))
      (fun k x hk hx => by rw [Array.getElem?_eq_none (Nat.le_of_pred_lt hk)] at hx; cases hx)
  rw [h10] at h20
  obtain ⟨a3, e3⟩ := swapAt_isSome (a := a2) (i := 0) (j := l') (hperm2.size_eq ▸ hpos)
    (hperm2.size_eq ▸ hb2)
  obtain ⟨_, _, hperm3, h30, h3l, h3k⟩ := swapAt_spec e3
  -- after the last swap: keys `< pivot` below `l'`, the pivot at `l'`, keys not `< pivot` above
  have hleft : ∀ k x, k < l' → a3[k]? = some x → Coord.lt (x.key coord) (p.key coord) = true := by
    intro k x hk hx
    by_cases hk0 : k = 0
    · subst hk0; rw [h30] at hx; exact hlow l' x hk (Nat.le_refl _) hx
    · rw [h3k k hk0 (Nat.ne_of_lt hk)] at hx
      exact hlow k x (Nat.pos_of_ne_zero hk0) (Nat.le_of_lt hk) hx
  have hright : ∀ k x, l' ≤ k → a3[k]? = some x → Coord.lt (x.key coord) (p.key coord) = false := by
    intro k x hk hx
    rcases Nat.eq_or_lt_of_le hk with e | hlt
    · subst e; rw [h3l, h20] at hx; cases hx; exact hirr
    · rw [h3k k (Nat.ne_of_gt (Nat.zero_lt_of_lt hlt)) (Nat.ne_of_gt hlt)] at hx
      exact hhigh k x hlt hx
  refine ⟨a3.toList.take l', a3.toList.drop l', ?_, ?_, ?_, ?_, ?_⟩
  · simp only [reorderSplit, e1, h10, e2, e3]
  · rw [List.take_append_drop]
    simpa using (hperm3.trans (hperm2.trans hperm1)).toList
  · intro x hx
    obtain ⟨k, hk⟩ := List.mem_iff_getElem?.1 hx
    rw [List.getElem?_take] at hk
    split at hk
    · next hkl => exact hleft k x hkl (Array.getElem?_toList ▸ hk)
    · cases hk
  · intro x hx
    obtain ⟨k, hk⟩ := List.mem_iff_getElem?.1 hx
    rw [List.getElem?_drop, Array.getElem?_toList] at hk
    exact hright _ x (Nat.le_add_right _ _) hk
  · refine List.mem_iff_getElem?.2 ⟨0, ?_⟩
    rw [List.getElem?_drop, Array.getElem?_toList, Nat.add_zero, h3l, h20]

theorem reorderSplit_ok {S : α → Prop} (laws : OrderLawsOn S) {items l r : List (Item α)}
    {pivot coord : Nat} (hS : ∀ x ∈ items, S (x.key coord))
    (h : reorderSplit items pivot coord = .ok (l, r)) :
    ∃ p, items[pivot]? = some p ∧ (l ++ r).Perm items ∧
      (∀ x ∈ l, Coord.lt (x.key coord) (p.key coord) = true) ∧
      (∀ x ∈ r, Coord.lt (x.key coord) (p.key coord) = false) := by
  have hpl : pivot < items.length := by
    unfold reorderSplit at h
    split at h
    · cases h
    · next a e => simpa using (swapAt_spec e).2.1
  obtain ⟨l', r', e, hperm, hl, hr, _⟩ := reorderSplit_spec_aux laws hS (List.getElem?_eq_getElem hpl)
  rw [h] at e
  cases e
  exact ⟨_, List.getElem?_eq_getElem hpl, hperm, hl, hr⟩

theorem reorderSplit_sep {S : α → Prop} (laws : OrderLawsOn S) {items l r : List (Item α)}
    {pivot coord : Nat} (hS : ∀ x ∈ items, S (x.key coord))
    (h : reorderSplit items pivot coord = .ok (l, r)) :
    (l ++ r).Perm items ∧
      ∀ x ∈ l, ∀ y ∈ r, Coord.lt (x.key coord) (y.key coord) = true := by
  obtain ⟨p, hp, hperm, hl, hr⟩ := reorderSplit_ok laws hS h
  refine ⟨hperm, fun x hx y hy => ?_⟩
  exact laws.neg_trans _ _ _ (hS x (hperm.subset (List.mem_append_left _ hx)))
    (hS p (List.mem_of_getElem? hp)) (hS y (hperm.subset (List.mem_append_right _ hy)))
    (hl x hx) (hr y hy)

section Split

variable {wt : Int → Int → Bool} {coord : Nat} {sum : Int} {items : List (Item α)} {fuel it : Nat}
  {mn mx : α} {prev : Option Nat} {mv : Bool} {out : SplitOut α}

/-- One round of the cut search with target `t` and fold result `s`, by cases: nothing lies right of
`t` and the count repeats (all-left exit); a pivot exit `e` (tolerance met, or the count repeats,
or the nearest point leaves the interval), the result being `reorder_split` at the pivot; the upper
end moves to `t`; the lower end moves to `t`.  A round only goes on when the count differs from
`prev`. -/
theorem split_succ_cases (t : α) (s : Scan α) (ht : t = Coord.mid mn mx) (hs : s = scan items coord t)
    {r : Res (SplitOut α)}
    (h : split wt coord sum items (fuel + 1) it mn mx prev mv = r) :
    (s.nearest = none ∧ prev = some s.count ∧
      r = .ok ⟨items, [], sum, mx, .allLeft, mn, mx, mv, it + 1⟩) ∨
    (∃ idx nd e, s.nearest = some (idx, nd) ∧ e ≠ .allLeft ∧
      (e = .tolerance → wt s.wl sum = true) ∧
      r = (reorderSplit items idx coord).bind fun lr =>
        .ok ⟨lr.1, lr.2, s.wl, t, e, mn, mx, mv, it + 1⟩) ∨
    (prev ≠ some s.count ∧ (s.nearest = none ∨ ¬ s.wl < sum - s.wl) ∧
      r = split wt coord sum items fuel (it + 1) mn t (some s.count) true) ∨
    (prev ≠ some s.count ∧ s.nearest ≠ none ∧ s.wl < sum - s.wl ∧
      r = split wt coord sum items fuel (it + 1) t mx (some s.count) mv) := by
  rw [split] at h
  dsimp only at h
  rw [← ht, ← hs] at h
  cases hn : s.nearest with
  | none =>
    rw [hn] at h
    by_cases hp : prev = some s.count
    · exact .inl ⟨rfl, hp, h.symm.trans (if_pos hp)⟩
    · exact .inr (.inr (.inl ⟨hp, .inl rfl, h.symm.trans (if_neg hp)⟩))
  | some pr =>
    obtain ⟨idx, nd⟩ := pr
    simp only [hn] at h
    -- the return through `reorder_split`, whichever of the three exits `e` is
    have hb : ∀ e, (match reorderSplit items idx coord with
          | .oob => .oob
          | .fuel => .fuel
          | .ok (l, r) => .ok ⟨l, r, s.wl, t, e, mn, mx, mv, it + 1⟩ : Res (SplitOut α)) =
        (reorderSplit items idx coord).bind fun lr =>
          .ok ⟨lr.1, lr.2, s.wl, t, e, mn, mx, mv, it + 1⟩ := by
      intro e
      cases reorderSplit items idx coord with
      | ok p => cases p; rfl
      | oob => rfl
      | fuel => rfl
    by_cases hp : prev = some s.count
    · rw [if_pos hp] at h
      exact .inr (.inl ⟨idx, nd, .plateau, rfl, nofun, nofun, h.symm.trans (hb _)⟩)
    · by_cases hm : Coord.le mx (Coord.add t nd) = true
      · rw [if_neg hp, if_pos hm] at h
        exact .inr (.inl ⟨idx, nd, .noPointToMax, rfl, nofun, nofun, h.symm.trans (hb _)⟩)
      · by_cases hw : wt s.wl sum = true
        · rw [if_neg hp, if_neg hm, if_pos hw] at h
          exact .inr (.inl ⟨idx, nd, .tolerance, rfl, nofun, fun _ => hw, h.symm.trans (hb _)⟩)
        · rw [if_neg hp, if_neg hm, if_neg hw] at h
          by_cases hlt : s.wl < sum - s.wl
          · exact .inr (.inr (.inr ⟨hp, nofun, hlt, h.symm.trans (if_pos hlt)⟩))
          · exact .inr (.inr (.inl ⟨hp, .inr hlt, h.symm.trans (if_neg hlt)⟩))

/-- What the returning round of the cut search leaves in `out`; `out.lastMin`, `out.lastMax` are
the interval of that round. -/
def LastRound (wt : Int → Int → Bool) (coord : Nat) (sum : Int) (items : List (Item α))
    (out : SplitOut α) : Prop :=
  let t := Coord.mid out.lastMin out.lastMax
  let s := scan items coord t
  (s.nearest = none ∧ out.exit = .allLeft ∧
    out.left = items ∧ out.right = [] ∧ out.weightLeft = sum ∧ out.splitPos = out.lastMax) ∨
  ∃ idx nd, s.nearest = some (idx, nd) ∧
    out.exit ≠ .allLeft ∧ reorderSplit items idx coord = .ok (out.left, out.right) ∧
    out.weightLeft = s.wl ∧ out.splitPos = t ∧
    (out.exit = .tolerance → wt out.weightLeft sum = true)

/-- `hmax` / `hmin`: `I` survives the round that moves the upper / the lower end to the target. -/
theorem split_ok_inv {I : α → α → Bool → Prop}
    (hmax : ∀ mn mx mv, I mn mx mv →
      ((scan items coord (Coord.mid mn mx)).nearest = none ∨
        ¬ (scan items coord (Coord.mid mn mx)).wl < sum - (scan items coord (Coord.mid mn mx)).wl) →
      I mn (Coord.mid mn mx) true)
    (hmin : ∀ mn mx mv, I mn mx mv → (scan items coord (Coord.mid mn mx)).nearest ≠ none →
      (scan items coord (Coord.mid mn mx)).wl < sum - (scan items coord (Coord.mid mn mx)).wl →
      I (Coord.mid mn mx) mx mv) :
    ∀ {fuel it : Nat} {mn mx : α} {prev : Option Nat} {mv : Bool},
      I mn mx mv → split wt coord sum items fuel it mn mx prev mv = .ok out →
      I out.lastMin out.lastMax out.maxMoved ∧ LastRound wt coord sum items out := by
  intro fuel
  induction fuel with
  | zero => intro it mn mx prev mv _ h; cases h
  | succ fuel ih =>
    intro it mn mx prev mv hI h
    rcases split_succ_cases _ _ rfl rfl h with
      ⟨hn, _, hr⟩ | ⟨idx, nd, e, hn, he, htol, hr⟩ | ⟨_, hc, hr⟩ | ⟨_, hn, hc, hr⟩
    · cases hr
      exact ⟨hI, .inl ⟨hn, rfl, rfl, rfl, rfl, rfl⟩⟩
    · obtain ⟨⟨l, r⟩, hlr, hr⟩ := Res.bind_eq_ok hr.symm
      cases hr
      exact ⟨hI, .inr ⟨idx, nd, hn, he, hlr, rfl, rfl, htol⟩⟩
    · exact ih (hmax _ _ _ hI hc) hr.symm
    · exact ih (hmin _ _ _ hI hn hc) hr.symm

theorem split_lastRound (h : split wt coord sum items fuel it mn mx prev mv = .ok out) :
    LastRound wt coord sum items out :=
  (split_ok_inv (I := fun _ _ _ => True) (fun _ _ _ _ _ => trivial) (fun _ _ _ _ _ _ => trivial)
    trivial h).2

variable {S : α → Prop} (laws : OrderLawsOn S) (hS : ∀ x ∈ items, S (x.key coord))
include laws hS

theorem split_sep (h : split wt coord sum items fuel it mn mx prev mv = .ok out) :
    (out.left ++ out.right).Perm items ∧
      ∀ x ∈ out.left, ∀ y ∈ out.right, Coord.lt (x.key coord) (y.key coord) = true := by
  rcases split_lastRound h with ⟨_, _, hl, hr, _⟩ | ⟨idx, nd, _, _, hr, _⟩
  · rw [hl, hr, List.append_nil]
    exact ⟨.refl _, fun _ _ _ hy => nomatch hy⟩
  · exact reorderSplit_sep laws hS hr

theorem split_sub (h : split wt coord sum items fuel it mn mx prev mv = .ok out) :
    (∀ x ∈ out.left, x ∈ items) ∧ (∀ x ∈ out.right, x ∈ items) :=
  have hperm := (split_sep laws hS h).1
  ⟨fun _ hx => hperm.subset (List.mem_append_left _ hx),
    fun _ hx => hperm.subset (List.mem_append_right _ hx)⟩

omit laws hS in
theorem scanStep_nearest {t : α} {st : Scan α} {x : Item α} {k i : Nat} {d : α}
    (h : (scanStep coord t st (x, k)).nearest = some (i, d)) : st.nearest = some (i, d) ∨ i = k := by
  -- the new candidate is `(k, _)`; every other branch keeps `st.nearest`
  have hnew : ∀ {c : Prop} [Decidable c] {d'},
      (if c then { st with nearest := some (k, d') } else st).nearest = some (i, d) →
        st.nearest = some (i, d) ∨ i = k := fun {c} _ _ h => by
    by_cases hc : c
    · rw [if_pos hc] at h; cases h; exact .inr rfl
    · rw [if_neg hc] at h; exact .inl h
  unfold scanStep at h
  dsimp only at h
  by_cases hl : Coord.lt (Coord.sub (x.key coord) t) Coord.zero = true
  · rw [if_pos hl] at h; exact .inl h
  · rw [if_neg hl] at h
    cases hn : st.nearest with
    | none => rw [hn] at h; exact hn ▸ hnew h
    | some p => rw [hn] at h; exact hn ▸ hnew h

omit laws hS in
theorem scanFold_idx (t : α) : ∀ (l : List (Item α)) (k : Nat) (st : Scan α),
    (∀ i d, st.nearest = some (i, d) → i < k) →
    ∀ i d, ((l.zipIdx k).foldl (scanStep coord t) st).nearest = some (i, d) → i < k + l.length := by
  intro l
  induction l with
  | nil => intro k st h i d hi; exact h i d hi
  | cons x xs ih =>
    intro k st h i d hi
    rw [List.length_cons, Nat.add_comm xs.length, ← Nat.add_assoc]
    refine ih (k + 1) _ (fun i d hid => ?_) i d hi
    rcases scanStep_nearest hid with hid | rfl
    · exact Nat.lt_succ_of_lt (h i d hid)
    · exact Nat.lt_succ_self _

omit laws hS in
theorem scan_idx_lt {t : α} {i : Nat} {d : α} (h : (scan items coord t).nearest = some (i, d)) :
    i < items.length :=
  Nat.zero_add items.length ▸ scanFold_idx t items 0 ⟨0, 0, none⟩ (fun _ _ h => nomatch h) i d h

theorem split_succ_fail {r : Res (SplitOut α)}
    (h : split wt coord sum items (fuel + 1) it mn mx prev mv = r) (hr : ∀ out, r ≠ .ok out) :
    prev ≠ some (scan items coord (Coord.mid mn mx)).count ∧
      (r = split wt coord sum items fuel (it + 1) mn (Coord.mid mn mx)
          (some (scan items coord (Coord.mid mn mx)).count) true ∨
        r = split wt coord sum items fuel (it + 1) (Coord.mid mn mx) mx
          (some (scan items coord (Coord.mid mn mx)).count) mv) := by
  rcases split_succ_cases _ _ rfl rfl h with
    ⟨_, _, e⟩ | ⟨idx, nd, _, hn, _, _, e⟩ | ⟨hp, _, e⟩ | ⟨hp, _, _, e⟩
  · exact absurd e (hr _)
  · obtain ⟨l, r', e', _⟩ := reorderSplit_spec_aux laws hS (List.getElem?_eq_getElem (scan_idx_lt hn))
    rw [e'] at e
    exact absurd e (hr _)
  · exact ⟨hp, .inl e⟩
  · exact ⟨hp, .inr e⟩

/-- `par_rcb_split` performs no out-of-range access (the `unsafe` unchecked reads of
`reorder_split_scalar` included). -/
theorem split_no_oob : ∀ (fuel it : Nat) (mn mx : α) (prev : Option Nat) (mv : Bool),
    split wt coord sum items fuel it mn mx prev mv ≠ .oob := by
  intro fuel
  induction fuel with
  | zero => intro it mn mx prev mv h; cases h
  | succ fuel ih =>
    intro it mn mx prev mv h
    obtain ⟨_, hr | hr⟩ := split_succ_fail laws hS h fun _ e => nomatch e
    · exact ih _ _ _ _ _ hr.symm
    · exact ih _ _ _ _ _ hr.symm

end Split

theorem recurse_succ (wt : Int → Int → Bool) (cfg : Cfg) (k : Nat) (x : Item α) (xs : List (Item α))
    (iterId coord : Nat) (sum : Int) (lo hi : List α) :
    recurse wt cfg (k + 1) (x :: xs) iterId coord sum lo hi =
      (split wt coord sum (x :: xs) cfg.fuel 0 (lo.getD coord Coord.zero) (hi.getD coord Coord.zero)
        none false).bind fun r =>
      (recurse wt cfg k r.left (2 * iterId + 1) ((coord + 1) % cfg.dim) r.weightLeft lo
        (hi.set coord r.splitPos)).bind fun tl =>
      (recurse wt cfg k r.right (2 * iterId + 2) ((coord + 1) % cfg.dim) (sum - r.weightLeft)
        (lo.set coord r.splitPos) hi).bind fun tr =>
      .ok (.node ⟨coord, sum, lo.getD coord Coord.zero, hi.getD coord Coord.zero, r.weightLeft,
        r.splitPos, r.exit, r.iters⟩ tl tr) := by
  simp only [recurse]
  cases split wt coord sum (x :: xs) cfg.fuel 0 (lo.getD coord Coord.zero)
      (hi.getD coord Coord.zero) none false with
  | oob => rfl
  | fuel => rfl
  | ok r =>
    dsimp only [Res.bind]
    cases recurse wt cfg k r.left (2 * iterId + 1) ((coord + 1) % cfg.dim) r.weightLeft lo
        (hi.set coord r.splitPos) with
    | oob => rfl
    | fuel => rfl
    | ok tl =>
      cases recurse wt cfg k r.right (2 * iterId + 2) ((coord + 1) % cfg.dim) (sum - r.weightLeft)
        (lo.set coord r.splitPos) hi <;> rfl

theorem recurse_bisection {S : α → Prop} (laws : OrderLawsOn S) (wt : Int → Int → Bool) (cfg : Cfg)
    (key : Nat → Nat → α) :
    ∀ (k : Nat) (items : List (Item α)) (iterId coord : Nat) (sum : Int) (lo hi : List α)
      (t : Tree (NodeInfo α)),
      (∀ x ∈ items, ∀ c, x.key c = key x.id c) → (∀ x ∈ items, ∀ c, S (x.key c)) →
      recurse wt cfg k items iterId coord sum lo hi = .ok t →
      IsBisection key cfg.dim k coord iterId t ∧ t.members.Perm (items.map (·.id)) := by
  intro k
  induction k with
  | zero =>
    intro items iterId coord sum lo hi t hk hS h
    cases items with
    | nil => cases h; exact ⟨trivial, .nil⟩
    | cons x xs => cases h; exact ⟨rfl, .refl _⟩
  | succ k ih =>
    intro items iterId coord sum lo hi t hk hS h
    cases items with
    | nil => cases h; exact ⟨trivial, .nil⟩
    | cons x xs =>
      obtain ⟨r, hr, h⟩ := Res.bind_eq_ok ((recurse_succ ..).symm.trans h)
      obtain ⟨tl, hl, h⟩ := Res.bind_eq_ok h
      obtain ⟨tr, htr, h⟩ := Res.bind_eq_ok h
      cases h
      have hSc : ∀ y ∈ x :: xs, S (y.key coord) := fun y hy => hS y hy coord
      obtain ⟨hperm, hsep⟩ := split_sep laws hSc hr
      obtain ⟨hml, hmr⟩ := split_sub laws hSc hr
      obtain ⟨bl, pl⟩ := ih _ _ _ _ _ _ _ (fun y hy => hk y (hml y hy))
        (fun y hy => hS y (hml y hy)) hl
      obtain ⟨br, pr⟩ := ih _ _ _ _ _ _ _ (fun y hy => hk y (hmr y hy))
        (fun y hy => hS y (hmr y hy)) htr
      refine ⟨⟨?_, bl, br⟩, ?_⟩
      · intro i hi j hj
        obtain ⟨y, hy, rfl⟩ := List.mem_map.1 (pl.mem_iff.1 hi)
        obtain ⟨z, hz, rfl⟩ := List.mem_map.1 (pr.mem_iff.1 hj)
        rw [← hk y (hml y hy), ← hk z (hmr z hz)]
        exact hsep y hy z hz
      · have := (pl.append pr)
        rw [← List.map_append] at this
        exact this.trans (hperm.map _)

theorem recurse_no_oob {S : α → Prop} (laws : OrderLawsOn S) (wt : Int → Int → Bool) (cfg : Cfg) :
    ∀ (k : Nat) (items : List (Item α)) (iterId coord : Nat) (sum : Int) (lo hi : List α),
      (∀ x ∈ items, ∀ c, S (x.key c)) →
      recurse wt cfg k items iterId coord sum lo hi ≠ .oob := by
  intro k
  induction k with
  | zero => intro items iterId coord sum lo hi hS; cases items <;> nofun
  | succ k ih =>
    intro items iterId coord sum lo hi hS
    cases items with
    | nil => nofun
    | cons x xs =>
      have hSc : ∀ y ∈ x :: xs, S (y.key coord) := fun y hy => hS y hy coord
      rw [recurse_succ]
      refine Res.bind_ne_oob (split_no_oob laws hSc _ _ _ _ _ _) fun r hr => ?_
      obtain ⟨hml, hmr⟩ := split_sub laws hSc hr
      exact Res.bind_ne_oob (ih _ _ _ _ _ _ fun y hy => hS y (hml y hy)) fun tl _ =>
        Res.bind_ne_oob (ih _ _ _ _ _ _ fun y hy => hS y (hmr y hy)) fun tr _ => nofun

/-- Counting from 1 (`p + 1`, `id + 1`), the number of a leaf `d` levels below a node is the
node's number followed by `d` binary digits. -/
theorem leaf_number {ι : Type} (key : Nat → Nat → α) (dim : Nat) (t : Tree ι) :
    ∀ (d ax id : Nat), IsBisection key dim d ax id t →
      ∀ pl ∈ t.leaves, (pl.1 + 1) / 2 ^ d = id + 1 := by
  induction t with
  | empty => intro d ax id _ pl hpl; cases hpl
  | leaf p ids =>
    intro d ax id h pl hpl
    cases d with
    | zero =>
      cases List.mem_singleton.1 hpl
      rw [show p = id from h, Nat.pow_zero, Nat.div_one]
    | succ d => exact h.elim
  | node info lo hi ihl ihh =>
    intro d ax id h pl hpl
    cases d with
    | zero => exact h.elim
    | succ d =>
      obtain ⟨_, hl, hh⟩ := h
      rw [Nat.pow_succ, ← Nat.div_div_eq_div_mul]
      rcases List.mem_append.1 hpl with hpl | hpl
      · rw [ihl _ _ _ hl pl hpl]; omega
      · rw [ihh _ _ _ hh pl hpl]; omega

theorem leaves_increasing {ι : Type} (key : Nat → Nat → α) (dim : Nat) (t : Tree ι) :
    ∀ (d ax id : Nat), IsBisection key dim d ax id t →
      (t.leaves.map (·.1)).Pairwise (· < ·) := by
  induction t with
  | empty => intro d ax id _; exact .nil
  | leaf p ids => intro d ax id _; exact List.pairwise_singleton _ _
  | node info lo hi ihl ihh =>
    intro d ax id h
    cases d with
    | zero => exact h.elim
    | succ d =>
      obtain ⟨_, hl, hh⟩ := h
      rw [Tree.leaves, List.map_append, List.pairwise_append]
      refine ⟨ihl _ _ _ hl, ihh _ _ _ hh, fun a ha b hb => ?_⟩
      obtain ⟨pa, hpa, rfl⟩ := List.mem_map.1 ha
      obtain ⟨pb, hpb, rfl⟩ := List.mem_map.1 hb
      have h1 := leaf_number key dim lo _ _ _ hl pa hpa
      have h2 := leaf_number key dim hi _ _ _ hh pb hpb
      refine Nat.lt_of_not_le fun hle => ?_
      have := Nat.div_le_div_right (c := 2 ^ d) (Nat.add_le_add_right hle 1)
      omega

theorem same_leaf {ι : Type} (key : Nat → Nat → α) (dim : Nat) (i j : Nat)
    (hij : ∀ c, Coord.lt (key i c) (key j c) = false ∧ Coord.lt (key j c) (key i c) = false)
    (t : Tree ι) :
    ∀ (d ax id : Nat), IsBisection key dim d ax id t → i ∈ t.members → j ∈ t.members →
      ∃ pl ∈ t.leaves, i ∈ pl.2 ∧ j ∈ pl.2 := by
  induction t with
  | empty => intro d ax id _ hi; simp [Tree.members] at hi
  | leaf p ids =>
    intro d ax id _ hi hj
    exact ⟨(p, ids), by simp [Tree.leaves], hi, hj⟩
  | node info lo hi ihl ihh =>
    intro d ax id h hi' hj'
    cases d with
    | zero => simp [IsBisection] at h
    | succ d =>
      simp only [IsBisection] at h
      obtain ⟨hsep, hl, hh⟩ := h
      simp only [Tree.members, List.mem_append] at hi' hj'
      simp only [Tree.leaves, List.mem_append]
      rcases hi' with hi' | hi' <;> rcases hj' with hj' | hj'
      · obtain ⟨pl, h1, h2⟩ := ihl _ _ _ hl hi' hj'
        exact ⟨pl, Or.inl h1, h2⟩
      · have := hsep i hi' j hj'
        rw [(hij ax).1] at this; cases this
      · have := hsep j hj' i hi'
        rw [(hij ax).2] at this; cases this
      · obtain ⟨pl, h1, h2⟩ := ihh _ _ _ hh hi' hj'
        exact ⟨pl, Or.inr h1, h2⟩

theorem scatterFold_size (assign : List (Nat × Nat)) : ∀ (arr : Array Nat),
    (assign.foldl (fun (a : Array Nat) (x : Nat × Nat) => a.setIfInBounds x.1 x.2) arr).size
      = arr.size := by
  induction assign with
  | nil => intro arr; rfl
  | cons x xs ih => intro arr; simp only [List.foldl_cons]; rw [ih]; simp

theorem scatterFold_notin (assign : List (Nat × Nat)) (i : Nat) : ∀ (arr : Array Nat),
    i ∉ assign.map (·.1) →
    (assign.foldl (fun (a : Array Nat) (x : Nat × Nat) => a.setIfInBounds x.1 x.2) arr)[i]?
      = arr[i]? := by
  induction assign with
  | nil => intro arr _; rfl
  | cons x xs ih =>
    intro arr hni
    simp only [List.map_cons, List.mem_cons, not_or] at hni
    simp only [List.foldl_cons]
    rw [ih _ hni.2, Array.getElem?_setIfInBounds]
    have : ¬ x.1 = i := fun h => hni.1 h.symm
    simp [this]

theorem scatterFold_in (assign : List (Nat × Nat)) (i p : Nat) : ∀ (arr : Array Nat),
    (assign.map (·.1)).Nodup → (i, p) ∈ assign → i < arr.size →
    (assign.foldl (fun (a : Array Nat) (x : Nat × Nat) => a.setIfInBounds x.1 x.2) arr)[i]?
      = some p := by
  induction assign with
  | nil => intro arr _ h; cases h
  | cons x xs ih =>
    intro arr hnd hm hi
    simp only [List.map_cons, List.nodup_cons] at hnd
    simp only [List.foldl_cons]
    rcases List.mem_cons.1 hm with hm | hm
    · subst hm
      rw [scatterFold_notin xs i _ hnd.1, Array.getElem?_setIfInBounds]
      simp [hi]
    · exact ih _ hnd.2 hm (by simpa using hi)

theorem scatter_length (n : Nat) (assign : List (Nat × Nat)) : (scatter n assign).length = n := by
  simp [scatter, scatterFold_size]

theorem scatter_get (n : Nat) (assign : List (Nat × Nat)) (i p : Nat)
    (hnd : (assign.map (·.1)).Nodup) (hm : (i, p) ∈ assign) (hi : i < n) :
    (scatter n assign)[i]? = some p := by
  simp only [scatter, Array.getElem?_toList]
  exact scatterFold_in assign i p _ hnd hm (by simpa using hi)

theorem assign_map_fst {ι : Type} (t : Tree ι) : t.assign.map (·.1) = t.members := by
  induction t with
  | empty => rfl
  | leaf p ids =>
    simp only [Tree.assign, Tree.members, List.map_map]
    have : ((fun x : Nat × Nat => x.1) ∘ fun i => (i, p)) = id := rfl
    rw [this, List.map_id]
  | node info lo hi ihl ihh => simp [Tree.assign, Tree.members, ihl, ihh]

theorem mem_assign {ι : Type} (t : Tree ι) (i p : Nat) :
    (i, p) ∈ t.assign ↔ ∃ pl ∈ t.leaves, pl.1 = p ∧ i ∈ pl.2 := by
  induction t with
  | empty => simp [Tree.assign, Tree.leaves]
  | leaf q ids =>
    simp only [Tree.assign, Tree.leaves, List.mem_map, List.mem_singleton, Prod.mk.injEq]
    constructor
    · rintro ⟨a, ha, rfl, rfl⟩; exact ⟨(q, ids), rfl, rfl, ha⟩
    · rintro ⟨pl, rfl, rfl, h⟩; exact ⟨i, h, rfl, rfl⟩
  | node info lo hi ihl ihh =>
    simp only [Tree.assign, Tree.leaves, List.mem_append, ihl, ihh, or_and_right, exists_or]

theorem mem_members {ι : Type} (t : Tree ι) (i : Nat) :
    i ∈ t.members ↔ ∃ pl ∈ t.leaves, i ∈ pl.2 := by
  induction t with
  | empty => simp [Tree.members, Tree.leaves]
  | leaf q ids => simp [Tree.members, Tree.leaves]
  | node info lo hi ihl ihh =>
    simp only [Tree.members, Tree.leaves, List.mem_append, ihl, ihh, or_and_right, exists_or]

theorem minNat_spec {l : List Nat} (h : l ≠ []) : minNat l ∈ l ∧ ∀ y ∈ l, minNat l ≤ y := by
  cases l with
  | nil => exact absurd rfl h
  | cons x xs => exact List.min?_eq_some_iff.1 List.min?_cons'

omit [Coord α] in
theorem mkItems_ids (pts : List (List α)) (ws : List Int) (h : ws.length = pts.length) :
    (mkItems pts ws).map (·.id) = List.range pts.length := by
  simp only [mkItems, List.map_map]
  have : ((fun x : Item α => x.id) ∘ fun x : (List α × Int) × Nat => (⟨x.2, x.1.2, x.1.1⟩ : Item α))
      = Prod.snd := rfl
  rw [this, List.zipIdx_map_snd, List.range_eq_range', List.length_zip, h, Nat.min_self]

omit [Coord α] in
theorem mkItems_zip (pts : List (List α)) (ws : List Int) (x : Item α) (hx : x ∈ mkItems pts ws) :
    (pts.zip ws)[x.id]? = some (x.c, x.w) := by
  simp only [mkItems, List.mem_map] at hx
  obtain ⟨⟨⟨p, w⟩, i⟩, hm, rfl⟩ := hx
  exact List.mem_zipIdx_iff_getElem?.1 hm

omit [Coord α] in
theorem mkItems_key (pts : List (List α)) (ws : List Int) (x : Item α) (hx : x ∈ mkItems pts ws) :
    pts[x.id]? = some x.c :=
  (List.getElem?_zip_eq_some.1 (mkItems_zip pts ws x hx)).1

theorem mkItems_ptKey (pts : List (List α)) (ws : List Int) (x : Item α) (hx : x ∈ mkItems pts ws)
    (c : Nat) : x.key c = ptKey pts x.id c := by
  simp [Item.key, ptKey, List.getD_eq_getElem?_getD, mkItems_key pts ws x hx]

theorem mkItems_forall_key {pts : List (List α)} {P : α → Prop}
    (h : ∀ p ∈ pts, ∀ c, P (p.getD c Coord.zero)) (ws : List Int) :
    ∀ x ∈ mkItems pts ws, ∀ c, P (x.key c) :=
  fun x hx c => h x.c (List.mem_iff_getElem?.2 ⟨_, mkItems_key pts ws x hx⟩) c

/-- Two numbers that, counted from 1, lie in `[p, 2 * p)` differ by less than `p`. -/
theorem sub_lt_of_div_eq_one {a b p : Nat} (hp : 0 < p) (ha : (a + 1) / p = 1)
    (hb : (b + 1) / p = 1) : a - b < p := by
  rw [Nat.div_eq_iff hp] at ha hb
  omega

theorem runBB_cases (wt : Int → Int → Bool) (cfg : Cfg) (iter : Nat) (pts : List (List α))
    (ws : List Int) (plen : Nat) (lo hi : List α) :
    runBB wt cfg iter pts ws plen lo hi = .lenMismatch ∨
    (pts = [] ∧ runBB wt cfg iter pts ws plen lo hi = .ok []) ∨
    (ws.length = plen ∧ pts.length = plen ∧ pts ≠ [] ∧
      runBB wt cfg iter pts ws plen lo hi =
        match runTree wt cfg iter pts ws lo hi with
        | .oob => .oob
        | .fuel => .fuel
        | .ok t => .ok (idsOfTree plen t)) := by
  unfold runBB
  by_cases hw : ws.length = plen
  · by_cases hp : pts.length = plen
    · rw [if_neg (not_not_intro hw), if_neg (not_not_intro hp)]
      cases pts with
      | nil => exact .inr (.inl ⟨rfl, rfl⟩)
      | cons p ps => exact .inr (.inr ⟨hw, hp, List.cons_ne_nil _ _, rfl⟩)
    · exact .inl (by rw [if_neg (not_not_intro hw), if_pos hp])
  · exact .inl (if_pos hw)

theorem runBB_bisection {S : α → Prop} (laws : OrderLawsOn S) (wt : Int → Int → Bool) (cfg : Cfg)
    (iter : Nat) (pts : List (List α)) (ws : List Int) (plen : Nat) (lo hi : List α) (ids : List Nat)
    (hS : ∀ p ∈ pts, ∀ c, S (p.getD c Coord.zero))
    (h : runBB wt cfg iter pts ws plen lo hi = .ok ids) :
    ∃ t : Tree (NodeInfo α),
      IsBisection (ptKey pts) cfg.dim iter 0 0 t ∧
      t.members.Perm (List.range pts.length) ∧
      (∃ off, ∀ pl ∈ t.leaves, ∀ i ∈ pl.2, off ≤ pl.1 ∧ ids[i]? = some (pl.1 - off)) ∧
      ids.length = pts.length ∧ ∀ v ∈ ids, v < 2 ^ iter := by
  rcases runBB_cases wt cfg iter pts ws plen lo hi with e | ⟨rfl, e⟩ | ⟨hw, hp, hne, e⟩
  · rw [e] at h; cases h
  · rw [e] at h; cases h
    exact ⟨.empty, by cases iter <;> trivial, .nil, ⟨0, fun _ hpl => nomatch hpl⟩, rfl,
      fun _ hv => nomatch hv⟩
  rw [e] at h
  split at h
  · cases h
  · cases h
  next t ht =>
  cases h
  obtain ⟨hb, hperm⟩ := recurse_bisection laws wt cfg (ptKey pts) iter _ _ _ _ _ _ t
    (mkItems_ptKey pts ws) (mkItems_forall_key hS ws) ht
  rw [mkItems_ids pts ws (hw.trans hp.symm)] at hperm
  have hmem : ∀ i, i ∈ t.members ↔ i < plen := fun i => by
    rw [hperm.mem_iff, List.mem_range, hp]
  have hnd : (t.assign.map (·.1)).Nodup := by
    rw [assign_map_fst]; exact hperm.nodup_iff.2 List.nodup_range
  have hcell : ∀ pl ∈ t.leaves, ∀ i ∈ pl.2, (scatter plen t.assign)[i]? = some pl.1 :=
    fun pl hpl i hi => scatter_get plen t.assign i pl.1 hnd
      ((mem_assign t i pl.1).2 ⟨pl, hpl, rfl, hi⟩) ((hmem i).1 ((mem_members t i).2 ⟨pl, hpl, hi⟩))
  have hall : ∀ v ∈ scatter plen t.assign, ∃ pl ∈ t.leaves, pl.1 = v := by
    intro v hv
    obtain ⟨i, hi⟩ := List.mem_iff_getElem?.1 hv
    have hilt : i < plen := scatter_length plen _ ▸ (List.getElem?_eq_some_iff.1 hi).1
    obtain ⟨pl, hpl, hipl⟩ := (mem_members t i).1 ((hmem i).2 hilt)
    rw [hcell pl hpl i hipl] at hi
    cases hi
    exact ⟨pl, hpl, rfl⟩
  have hne' : scatter plen t.assign ≠ [] := fun he => by
    have hl := scatter_length plen t.assign
    rw [he, ← hp] at hl
    exact hne (List.eq_nil_of_length_eq_zero hl.symm)
  obtain ⟨hmin, hle⟩ := minNat_spec hne'
  refine ⟨t, hb, hperm, ⟨minNat (scatter plen t.assign), fun pl hpl i hi => ?_⟩, ?_, ?_⟩
  · have hc := hcell pl hpl i hi
    refine ⟨hle _ (List.mem_iff_getElem?.2 ⟨i, hc⟩), ?_⟩
    simp only [idsOfTree, List.getElem?_map, hc, Option.map_some]
  · simp only [idsOfTree, List.length_map, scatter_length, hp]
  · intro v hv
    simp only [idsOfTree, List.mem_map] at hv
    obtain ⟨u, hu, rfl⟩ := hv
    obtain ⟨pl, hpl, rfl⟩ := hall u hu
    obtain ⟨pm, hpm, hpme⟩ := hall _ hmin
    rw [← hpme]
    exact sub_lt_of_div_eq_one (Nat.two_pow_pos iter) (leaf_number _ _ t iter 0 0 hb pl hpl)
      (leaf_number _ _ t iter 0 0 hb pm hpm)

end Coupe.Rcb
