import CoupeModel.Proofs.GridRcbTree

/-!
# The `axis_weights` blocks of `recurse_2d` / `recurse_3d` meet `AwSpec`

Inside the grid no index is out of bounds; the slab weights add up to the
weight of the box whatever the order of summation (`lsum_swap`); a prefix of the
slab weights is the weight of the low part of `split_at`.
-/

namespace Coupe.GridRcb

def lsum (l : List Nat) (f : Nat → Int) : Int := (l.map f).sum

theorem lsum_nil (f : Nat → Int) : lsum [] f = 0 := rfl
theorem lsum_cons (a : Nat) (l : List Nat) (f : Nat → Int) : lsum (a :: l) f = f a + lsum l f := by
  simp [lsum]

theorem lsum_append (l1 l2 : List Nat) (f : Nat → Int) : lsum (l1 ++ l2) f = lsum l1 f + lsum l2 f := by
  simp [lsum, List.sum_append]

theorem lsum_congr (l : List Nat) (f g : Nat → Int) (h : ∀ a ∈ l, f a = g a) : lsum l f = lsum l g := by
  simp only [lsum, List.map_congr_left h]

theorem lsum_add (l : List Nat) (f g : Nat → Int) : lsum l (fun a => f a + g a) = lsum l f + lsum l g :=
  sum_map_add l f g

theorem lsum_zero (l : List Nat) : lsum l (fun _ => 0) = 0 :=
  sum_map_zero l _ fun _ _ => rfl

theorem lsum_swap (l1 l2 : List Nat) (f : Nat → Nat → Int) :
    lsum l1 (fun a => lsum l2 (fun b => f a b)) = lsum l2 (fun b => lsum l1 (fun a => f a b)) := by
  induction l1 with
  | nil => simp only [lsum_nil]; exact (lsum_zero l2).symm
  | cons a l ih => simp only [lsum_cons, ih, lsum_add]

theorem lsum_nonneg (l : List Nat) (f : Nat → Int) (h : ∀ a ∈ l, 0 ≤ f a) : 0 ≤ lsum l f :=
  sum_map_nonneg f h

theorem sumM_eq (l : List Nat) (f : Nat → Option Int) (g : Nat → Int) (h : ∀ i ∈ l, f i = some (g i)) :
    sumM l f = some (lsum l g) := by
  have key : ∀ (l : List Nat) (a : Int), (∀ i ∈ l, f i = some (g i)) →
      l.foldlM (fun acc i => (f i).map (acc + ·)) a = some (a + lsum l g) := by
    intro l
    induction l with
    | nil => intro a _; simp [lsum]
    | cons b l ih =>
      intro a h
      simp only [List.foldlM_cons, h b List.mem_cons_self, Option.map_some, Option.bind_eq_bind,
        Option.bind_some]
      rw [ih _ (fun i hi => h i (List.mem_cons_of_mem _ hi)), lsum_cons]
      congr 1; omega
  simpa [sumM] using key l 0 h

theorem slab_spec (F : Nat → Int) (off n : Nat) :
    ((List.range' off n).map F).length = n ∧
    ∀ k, k ≤ n →
      lsum (List.range' off k) F = pre ((List.range' off n).map F) k ∧
      lsum (List.range' (k + off) (n - k)) F =
        ((List.range' off n).map F).sum - pre ((List.range' off n).map F) k := by
  refine ⟨by rw [List.length_map, List.length_range'], fun k hk => ?_⟩
  have h1 : pre ((List.range' off n).map F) k = lsum (List.range' off k) F := by
    rw [pre, ← List.map_take, List.take_range'_of_length_ge hk, lsum]
  have h2 : ((List.range' off n).map F).sum =
      lsum (List.range' off k) F + lsum (List.range' (k + off) (n - k)) F := by
    rw [← lsum_append, Nat.add_comm k off, List.range'_append_1, Nat.add_sub_cancel' hk, lsum]
  rw [h1, h2]
  exact ⟨rfl, by omega⟩

theorem axis_lo_same (sg : SubGrid) (c k : Nat) : (sg.lo c k).axis c = List.range' (sg.offset c) k := by
  simp [SubGrid.axis, SubGrid.lo, upd_same]

theorem axis_lo_other (sg : SubGrid) (c k i : Nat) (h : i ≠ c) : (sg.lo c k).axis i = sg.axis i := by
  rw [SubGrid.axis, (lo_agree sg c k i h).1, (lo_agree sg c k i h).2, SubGrid.axis]

theorem axis_hi_same (sg : SubGrid) (c k : Nat) :
    (sg.hi c k).axis c = List.range' (k + sg.offset c) (sg.size c - k) := by
  simp [SubGrid.axis, SubGrid.hi, upd_same]

theorem axis_hi_other (sg : SubGrid) (c k i : Nat) (h : i ≠ c) : (sg.hi c k).axis i = sg.axis i := by
  rw [SubGrid.axis, (hi_agree sg c k i h).1, (hi_agree sg c k i h).2, SubGrid.axis]

/-- The clauses of `AwSpec` at `sg, c`, from a slab function `F`. -/
theorem awSpec_at (aw : SubGrid → Nat → Option (List Int)) (bw : SubGrid → Int) (sg : SubGrid) (c : Nat)
    (F : Nat → Int) (haw : aw sg c = some ((sg.axis c).map F))
    (hbw : ∀ sg' : SubGrid, (∀ i, i ≠ c → sg'.axis i = sg.axis i) → bw sg' = lsum (sg'.axis c) F) :
    ∃ axisW, aw sg c = some axisW ∧ axisW.length = sg.size c ∧ axisW.sum = bw sg ∧
      ∀ k, k ≤ sg.size c →
        bw (sg.lo c k) = pre axisW k ∧ bw (sg.hi c k) = axisW.sum - pre axisW k := by
  obtain ⟨hl, hk⟩ := slab_spec F (sg.offset c) (sg.size c)
  refine ⟨_, haw, hl, (hbw sg fun _ _ => rfl).symm, fun k hkn => ?_⟩
  rw [hbw _ (axis_lo_other sg c k), hbw _ (axis_hi_other sg c k), axis_lo_same, axis_hi_same]
  exact hk k hkn

theorem lt_dims_of_mem_axis {D : Nat} {dims : Nat → Nat} {sg : SubGrid} {c x : Nat}
    (hin : InGrid D dims sg) (hc : c < D) (hx : x ∈ sg.axis c) : x < dims c :=
  Nat.lt_of_lt_of_le (List.mem_range'_1.1 hx).2 (hin c hc)

theorem getElem?_eq_some_getD (ws : Array Int) (i : Nat) (h : i < ws.size) :
    ws[i]? = some (ws.getD i 0) := by
  rw [Array.getD_eq_getD_getElem?, Array.getElem?_eq_getElem h]
  rfl

def cell2 (w : Nat) (ws : Array Int) (x y : Nat) : Int := ws.getD (indexOf2 w (x, y)) 0

theorem boxWeight2_eq (w : Nat) (ws : Array Int) (sg : SubGrid) :
    boxWeight2 w ws sg = lsum (sg.axis 1) fun y => lsum (sg.axis 0) fun x => cell2 w ws x y := rfl

theorem cell2_some (w h : Nat) (ws : Array Int) (hsz : w * h ≤ ws.size) (sg : SubGrid)
    (hin : InGrid 2 (vec2 (w, h)) sg) (x y : Nat) (hx : x ∈ sg.axis 0) (hy : y ∈ sg.axis 1) :
    ws[indexOf2 w (x, y)]? = some (cell2 w ws x y) :=
  getElem?_eq_some_getD ws _ (Nat.lt_of_lt_of_le
    (indexOf2_lt w h x y (lt_dims_of_mem_axis hin (c := 0) (by decide) hx)
      (lt_dims_of_mem_axis hin (c := 1) (by decide) hy)) hsz)

theorem awSpec2 (w h : Nat) (ws : Array Int) (hsz : w * h ≤ ws.size) :
    AwSpec 2 (vec2 (w, h)) (axisWeights2 w ws) (boxWeight2 w ws) := by
  intro sg c hc hin
  by_cases hc0 : c = 0
  · subst hc0
    apply awSpec_at _ _ sg 0 (fun x => lsum (sg.axis 1) fun y => cell2 w ws x y)
    · rw [axisWeights2, if_pos rfl]
      exact mapM_some _ _ _ fun x hx => sumM_eq _ _ _ fun y hy => cell2_some w h ws hsz sg hin x y hx hy
    · intro sg' hoff; rw [boxWeight2_eq, lsum_swap, hoff 1 (by decide)]
  · have hc1 : c = 1 := by omega
    subst hc1
    apply awSpec_at _ _ sg 1 (fun y => lsum (sg.axis 0) fun x => cell2 w ws x y)
    · rw [axisWeights2, if_neg hc0]
      exact mapM_some _ _ _ fun y hy => sumM_eq _ _ _ fun x hx => cell2_some w h ws hsz sg hin x y hx hy
    · intro sg' hoff; rw [boxWeight2_eq, hoff 0 (by decide)]

/-- The three orders of summation of `recurse_3d` against that of `boxWeight3`. -/
theorem tri2 (lx ly lz : List Nat) (c : Nat → Nat → Nat → Int) :
    (lsum lz fun z => lsum ly fun y => lsum lx fun x => c x y z) =
      lsum lz fun z => lsum lx fun x => lsum ly fun y => c x y z :=
  lsum_congr lz _ _ fun z _ => lsum_swap ly lx fun y x => c x y z

theorem tri1 (lx ly lz : List Nat) (c : Nat → Nat → Nat → Int) :
    (lsum lz fun z => lsum ly fun y => lsum lx fun x => c x y z) =
      lsum ly fun y => lsum lz fun z => lsum lx fun x => c x y z :=
  lsum_swap lz ly fun z y => lsum lx fun x => c x y z

theorem tri0 (lx ly lz : List Nat) (c : Nat → Nat → Nat → Int) :
    (lsum lz fun z => lsum ly fun y => lsum lx fun x => c x y z) =
      lsum lx fun x => lsum ly fun y => lsum lz fun z => c x y z :=
  (tri2 lx ly lz c).trans <| (lsum_swap lz lx fun z x => lsum ly fun y => c x y z).trans <|
    lsum_congr lx _ _ fun x _ => lsum_swap lz ly fun z y => c x y z

def cell3 (w h : Nat) (ws : Array Int) (x y z : Nat) : Int := ws.getD (indexOf3 w h (x, y, z)) 0

theorem boxWeight3_eq (w h : Nat) (ws : Array Int) (sg : SubGrid) :
    boxWeight3 w h ws sg =
      lsum (sg.axis 2) fun z => lsum (sg.axis 1) fun y => lsum (sg.axis 0) fun x => cell3 w h ws x y z := rfl

theorem cell3_some (w h d : Nat) (ws : Array Int) (hsz : w * h * d ≤ ws.size) (sg : SubGrid)
    (hin : InGrid 3 (vec3 (w, h, d)) sg) (x y z : Nat) (hx : x ∈ sg.axis 0) (hy : y ∈ sg.axis 1)
    (hz : z ∈ sg.axis 2) :
    ws[indexOf3 w h (x, y, z)]? = some (cell3 w h ws x y z) :=
  getElem?_eq_some_getD ws _ (Nat.lt_of_lt_of_le
    (indexOf3_lt w h d x y z (lt_dims_of_mem_axis hin (c := 0) (by decide) hx)
      (lt_dims_of_mem_axis hin (c := 1) (by decide) hy)
      (lt_dims_of_mem_axis hin (c := 2) (by decide) hz)) hsz)

theorem awSpec3 (w h d : Nat) (ws : Array Int) (hsz : w * h * d ≤ ws.size) :
    AwSpec 3 (vec3 (w, h, d)) (axisWeights3 w h ws) (boxWeight3 w h ws) := by
  intro sg c hc hin
  have cell := cell3_some w h d ws hsz sg hin
  by_cases hc0 : c = 0
  · subst hc0
    apply awSpec_at _ _ sg 0
      (fun x => lsum (sg.axis 1) fun y => lsum (sg.axis 2) fun z => cell3 w h ws x y z)
    · rw [axisWeights3, if_pos rfl]
      exact mapM_some _ _ _ fun x hx => sumM_eq _ _ _ fun y hy => sumM_eq _ _ _ fun z hz =>
        cell x y z hx hy hz
    · intro sg' hoff; rw [boxWeight3_eq, tri0, hoff 1 (by decide), hoff 2 (by decide)]
  · by_cases hc1 : c = 1
    · subst hc1
      apply awSpec_at _ _ sg 1
        (fun y => lsum (sg.axis 2) fun z => lsum (sg.axis 0) fun x => cell3 w h ws x y z)
      · rw [axisWeights3, if_neg hc0, if_pos rfl]
        exact mapM_some _ _ _ fun y hy => sumM_eq _ _ _ fun z hz => sumM_eq _ _ _ fun x hx =>
          cell x y z hx hy hz
      · intro sg' hoff; rw [boxWeight3_eq, tri1, hoff 0 (by decide), hoff 2 (by decide)]
    · have hc2 : c = 2 := by omega
      subst hc2
      apply awSpec_at _ _ sg 2
        (fun z => lsum (sg.axis 0) fun x => lsum (sg.axis 1) fun y => cell3 w h ws x y z)
      · rw [axisWeights3, if_neg hc0, if_neg hc1]
        exact mapM_some _ _ _ fun z hz => sumM_eq _ _ _ fun x hx => sumM_eq _ _ _ fun y hy =>
          cell x y z hx hy hz
      · intro sg' hoff; rw [boxWeight3_eq, tri2, hoff 0 (by decide), hoff 1 (by decide)]

theorem getD_nonneg (ws : Array Int) (hnn : ∀ x ∈ ws.toList, 0 ≤ x) (i : Nat) : 0 ≤ ws.getD i 0 := by
  rw [Array.getD_eq_getD_getElem?]
  by_cases h : i < ws.size
  · rw [Array.getElem?_eq_getElem h]
    exact hnn _ (by simp)
  · rw [Array.getElem?_eq_none (by omega)]
    simp

end Coupe.GridRcb
