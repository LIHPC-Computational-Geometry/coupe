import CoupeModel.Model.Codec

/-!
# Lemmas for C19 (codecs): little-endian integers, partition and weight files
-/

namespace Coupe.Codec

theorem toLE_length (k n : Nat) : (toLE k n).length = k := by
  induction k generalizing n with
  | zero => rfl
  | succ k ih => simp only [toLE, List.length_cons, ih]

theorem toLE_lt (k n : Nat) : ∀ b ∈ toLE k n, b < 256 := by
  induction k generalizing n with
  | zero => intro b hb; cases hb
  | succ k ih =>
    intro b hb
    rcases List.mem_cons.mp hb with rfl | h
    · exact Nat.mod_lt _ (by decide)
    · exact ih _ _ h

theorem fromLE_toLE (k n : Nat) (h : n < 256 ^ k) : fromLE (toLE k n) = n := by
  induction k generalizing n with
  | zero => rw [Nat.lt_one_iff.mp h]; rfl
  | succ k ih =>
    rw [toLE, fromLE, ih (n / 256) (Nat.div_lt_of_lt_mul (by rwa [Nat.pow_succ, Nat.mul_comm] at h)),
      Nat.mod_add_div]

theorem readN_append (k : Nat) (x rest : List Nat) (h : x.length = k) :
    readN k (x ++ rest) = some (x, rest) := by
  subst h
  simp [readN]

theorem readN_toLE (k n : Nat) (rest : List Nat) :
    readN k (toLE k n ++ rest) = some (toLE k n, rest) :=
  readN_append k _ rest (toLE_length k n)

theorem readN_cons4 (a b c d : Nat) (rest : List Nat) :
    readN 4 (a :: b :: c :: d :: rest) = some ([a, b, c, d], rest) :=
  readN_append 4 [a, b, c, d] rest rfl

theorem toI64_ofI64 (i : Int) (h1 : -2 ^ 63 ≤ i) (h2 : i < 2 ^ 63) : toI64 (ofI64 i) = i := by
  unfold toI64 ofI64
  split <;> omega

theorem ofI64_lt (i : Int) : ofI64 i < 2 ^ 64 := by
  unfold ofI64; omega

theorem map_toI64_ofI64 (r : List Int) (h : ∀ x ∈ r, -2 ^ 63 ≤ x ∧ x < 2 ^ 63) :
    (r.map ofI64).map toI64 = r := by
  rw [List.map_map]
  exact (List.map_congr_left fun x hx => toI64_ofI64 x (h x hx).1 (h x hx).2).trans (List.map_id r)

/-- `Except ε α` has no decidable equality; its successes are compared as options. -/
theorem eq_ok_iff_toOption {ε α : Type} {x : Except ε α} {a : α} :
    x = .ok a ↔ x.toOption = some a := by
  cases x with
  | error e => exact ⟨(nomatch ·), (nomatch ·)⟩
  | ok b => exact ⟨fun h => congrArg _ h, fun h => congrArg _ (Option.some.inj h)⟩

/-- `ByteArray.toList` is a loop by well-founded recursion, which the kernel evaluates
slowly; it yields the underlying list. -/
theorem toList_loop_eq (bs : ByteArray) (i : Nat) (r : List UInt8) :
    ByteArray.toList.loop bs i r = r.reverse ++ bs.data.toList.drop i := by
  induction i, r using ByteArray.toList.loop.induct bs with
  | case1 i r h ih =>
    have hget : bs.get! i = bs.data.toList[i] := getElem!_pos bs.data i h
    rw [ByteArray.toList.loop, if_pos h, ih, List.drop_eq_getElem_cons h, List.reverse_cons,
      List.append_assoc, hget]
    rfl
  | case2 i r h =>
    rw [ByteArray.toList.loop, if_neg h, List.drop_eq_nil_of_le (Nat.le_of_not_lt h),
      List.append_nil]

/-- `strB` without the loop: the form to evaluate. -/
theorem strB_eq (s : String) : strB s = s.toUTF8.data.toList.map (·.toNat) := by
  rw [strB, ByteArray.toList, toList_loop_eq]
  rfl

theorem capOk8 {n : Nat} (h : n < 2 ^ 60) : capOk 8 n = true :=
  decide_eq_true (show n * 8 ≤ 9223372036854775807 by omega)

theorem readU64s_flatMap (ids rest : List Nat) (h : ∀ i ∈ ids, i < 2 ^ 64) :
    readU64s ids.length (ids.flatMap (toLE 8) ++ rest) = .ok ids := by
  induction ids with
  | nil => rfl
  | cons a as ih =>
    obtain ⟨ha, has⟩ := List.forall_mem_cons.mp h
    simp only [List.flatMap_cons, List.length_cons, List.append_assoc, readU64s, readN_toLE,
      ih has, fromLE_toLE 8 a ha]

theorem readU64s_short (n : Nat) (b : List Nat) (h : b.length < 8 * n) :
    readU64s n b = .error .eof := by
  induction n generalizing b with
  | zero => omega
  | succ n ih =>
    by_cases h8 : 8 ≤ b.length
    · simp only [readU64s, readN, if_pos h8]
      rw [ih (b.drop 8) (by rw [List.length_drop]; omega)]
    · simp only [readU64s, readN, if_neg h8]

theorem decodePartition_header (n : Nat) (body : List Nat) (hn : n < 2 ^ 60) :
    decodePartition (magicMePe ++ toLE 8 n ++ body) = readU64s n body := by
  simp only [decodePartition, List.append_assoc, readN_append 4 magicMePe _ rfl, ne_eq,
    not_true_eq_false, if_false, readN_toLE, fromLE_toLE 8 n (by omega), capOk8 hn, if_true]

theorem decode_encodePartition (ids rest : List Nat) (hid : ∀ i ∈ ids, i < 2 ^ 64)
    (hlen : ids.length < 2 ^ 60) :
    decodePartition (encodePartition ids ++ rest) = .ok ids := by
  rw [encodePartition, List.append_assoc, decodePartition_header _ _ hlen]
  exact readU64s_flatMap ids rest hid

theorem flatMap_toLE8_length (r : List Nat) : (r.flatMap (toLE 8)).length = r.length * 8 := by
  induction r with
  | nil => rfl
  | cons a as ih =>
    rw [List.flatMap_cons, List.length_append, toLE_length, ih, List.length_cons, Nat.succ_mul,
      Nat.add_comm]

theorem decode8s_flatMap (r : List Nat) (h : ∀ x ∈ r, x < 2 ^ 64) :
    decode8s r.length (r.flatMap (toLE 8)) = r := by
  induction r with
  | nil => rfl
  | cons a as ih =>
    obtain ⟨ha, has⟩ := List.forall_mem_cons.mp h
    have hl := toLE_length 8 a
    simp only [List.flatMap_cons, List.length_cons, decode8s]
    rw [List.take_left' hl, List.drop_left' hl, ih has, fromLE_toLE 8 a ha]

theorem readRows_flatMap (c : Nat) (rows : List (List Nat)) (rest : List Nat)
    (h : ∀ r ∈ rows, r.length = c ∧ ∀ x ∈ r, x < 2 ^ 64) :
    readRows c rows.length (rows.flatMap (fun r => r.flatMap (toLE 8)) ++ rest) = .ok rows := by
  induction rows with
  | nil => rfl
  | cons r rs ih =>
    obtain ⟨⟨rfl, hr⟩, hrs⟩ := List.forall_mem_cons.mp h
    simp only [List.flatMap_cons, List.length_cons, List.append_assoc, readRows,
      readN_append _ _ _ (flatMap_toLE8_length r), decode8s_flatMap r hr, ih hrs]

/-- the two bytes of the criterion count, as `decodeWeights` reassembles them. -/
theorem le16_bytes {c : Nat} (h : c < 65536) : c % 256 + 256 * (c / 256 % 256) = c := by
  rw [Nat.mod_eq_of_lt (Nat.div_lt_of_lt_mul h), Nat.mod_add_div]

/-- `weight.rs`: `write_inner` then `read` on 64-bit patterns, integer and float files at once
(`flag`).  `hlen`: the outer `Vec` of 24-byte elements can be allocated. -/
theorem decode_encodeRows (flag : Nat) (rows : List (List Nat)) (c : Nat)
    (hne : rows ≠ []) (hc1 : 1 ≤ c) (hc2 : c ≤ 65535) (hlen : rows.length * 24 < 2 ^ 63)
    (h : ∀ r ∈ rows, r.length = c ∧ ∀ x ∈ r, x < 2 ^ 64) :
    ∃ b, encodeRows flag rows = .ok b ∧
      decodeWeights b =
        if flag % 2 = 1 then .ok (.ints (rows.map (·.map toI64))) else .ok (.floats rows) := by
  obtain ⟨first, rs, rfl⟩ := List.exists_cons_of_ne_nil hne
  have hf := (h first List.mem_cons_self).1
  refine ⟨_, by rw [encodeRows, if_neg (by omega), hf], ?_⟩
  have hrows := readRows_flatMap c (first :: rs) [] h
  rw [List.append_nil] at hrows
  have hcap : capOk 24 (first :: rs).length = true := decide_eq_true (Nat.le_of_lt_succ hlen)
  have hc0 : ¬ c = 0 := by omega
  -- the 8 header bytes spelt out, for `readN_cons4`
  show decodeWeights (77 :: 101 :: 87 :: 101 :: 1 :: flag :: (c % 256) :: (c / 256 % 256)
    :: (toLE 8 (first :: rs).length ++ _)) = _
  simp only [decodeWeights, readN_cons4, magicMeWe, ne_eq, not_true_eq_false, if_false,
    le16_bytes (Nat.lt_succ_of_le hc2), hc0, readN_toLE,
    fromLE_toLE 8 (first :: rs).length (by omega), hcap, hrows]

end Coupe.Codec
