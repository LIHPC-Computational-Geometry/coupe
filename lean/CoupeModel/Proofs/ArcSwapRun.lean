import CoupeModel.Proofs.ArcSwapAcct

/-!
# ArcSwap: schedules and the default completion only visit reachable states

What `run` executes inside a pass (the schedule of an op line, then the default completion,
which is itself a schedule) stays within `Reach`; when the default completion returns, every
task is done or in `Pc.panic`.
-/

namespace Coupe.ArcSwap

theorem runSchedule_reach {c : Cfg} {p₀ : List Nat} (sched : List Nat) {s : State} (tr : List (Nat × Event))
    (h : Reach c p₀ s) : Reach c p₀ (runSchedule c s sched tr).1 := by
  induction sched generalizing s tr with
  | nil => exact h
  | cons tid rest ih =>
    unfold runSchedule
    split
    · exact ih tr h
    · next s' ev hst => exact ih _ (Reach.step h hst)

/-- The default completion is one particular schedule: the lowest live task, again and again. -/
theorem finishPass_eq_runSchedule {c : Cfg} (fuel : Nat) {s s' : State} {tr tr' : List (Nat × Event)}
    (hf : finishPass c fuel s tr = some (s', tr')) :
    ∃ sched, runSchedule c s sched tr = (s', tr') ∧ firstLive s' = none := by
  induction fuel generalizing s tr with
  | zero => cases hf
  | succ fuel ih =>
    unfold finishPass at hf
    split at hf
    · next hnone =>
      cases hf
      exact ⟨[], rfl, hnone⟩
    · next tid _ =>
      split at hf
      · cases hf
      · next s1 ev hst =>
        obtain ⟨sched, e, hl⟩ := ih hf
        exact ⟨tid :: sched, by rw [runSchedule, hst]; exact e, hl⟩

theorem finishPass_reach {c : Cfg} {p₀ : List Nat} (fuel : Nat) {s s' : State} {tr tr' : List (Nat × Event)}
    (h : Reach c p₀ s) (hf : finishPass c fuel s tr = some (s', tr')) :
    Reach c p₀ s' ∧ firstLive s' = none := by
  obtain ⟨sched, e, hl⟩ := finishPass_eq_runSchedule fuel hf
  have := runSchedule_reach sched tr h
  rw [e] at this
  exact ⟨this, hl⟩

theorem allDone_of_firstLive {s : State} (h1 : firstLive s = none)
    (h2 : s.tasks.any (fun t => t.pc == .panic) = false) : allDone s = true := by
  unfold allDone
  rw [List.all_eq_true]
  intro t ht
  unfold firstLive at h1
  simp only [Option.map_eq_none_iff, List.find?_eq_none] at h1
  obtain ⟨i, hi⟩ := List.getElem?_of_mem ht
  have hm : (t, i) ∈ s.tasks.zipIdx := List.mem_zipIdx_iff_getElem?.2 hi
  have h3 := h1 (t, i) hm
  have h4 : (t.pc == Pc.panic) = false := by
    rw [List.any_eq_false] at h2
    simpa using h2 t ht
  simp only [Bool.and_eq_true, bne_iff_ne, ne_eq, not_and, Decidable.not_not] at h3
  rw [beq_iff_eq]
  by_cases hd : t.pc = .done
  · exact hd
  · have := h3 hd
    rw [this] at h4
    simp at h4

end Coupe.ArcSwap
