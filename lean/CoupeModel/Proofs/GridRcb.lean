import CoupeModel.Model.GridRcb
import CoupeModel.Proofs.Basic

/-!
# Lemmas on the model of `weighted_median` (`Model/GridRcb.lean`)

The `for` loop of one round is first rewritten as a scan over the probed
positions `p, p+s, p+2s, … < mx` with values `V q = Σ ws[0..q)` (`round_eq`).
What one scan does to the window `[min, max]` is said once (`scan_ret`,
`scan_cont`); the loop around it returns when there are at least two chunks
(`medianLoop_returns`), and whatever it returns is a prefix position that meets
the balance clause (`medianLoop_spec`).
-/

namespace Coupe.GridRcb

/-- One round's `for` loop fused with the generation of the probed positions:
probe `p`, then `p + s`, … while `< mx`. -/
def scanFrom (minPw maxPw : Int) (V : Nat → Int) (s : Nat) :
    Nat → Nat → Nat → Nat → Int → Scan
  | 0, _, mn, mx, left => .cont mn mx left
  | f + 1, p, mn, mx, left =>
    if p < mx then
      if V p < minPw then scanFrom minPw maxPw V s f (p + s) p mx (V p)
      else if maxPw < V p then .cont mn p left
      else .ret p (V p)
    else .cont mn mx left

theorem pre_zero (ws : List Int) : pre ws 0 = 0 := by simp [pre]

theorem pre_add (v : List Int) (p s : Nat) :
    pre v (p + s) = pre v p + ((v.drop p).take s).sum := by
  simp [pre, List.take_add, List.sum_append]

theorem pre_take (ws : List Int) (mx q : Nat) (h : q ≤ mx) : pre (ws.take mx) q = pre ws q := by
  simp [pre, List.take_take, Nat.min_eq_left h]

theorem pre_length (ws : List Int) : pre ws ws.length = ws.sum := by simp [pre]

theorem chunkSums_drop (s f : Nat) (v : List Int) (p : Nat) :
    chunkSums s (f + 1) (v.drop p) =
      if p < v.length then ((v.drop p).take s).sum :: chunkSums s f (v.drop (p + s)) else [] := by
  simp only [chunkSums, List.isEmpty_iff, List.drop_eq_nil_iff, List.drop_drop]
  by_cases h : p < v.length
  · rw [if_neg (Nat.not_le.2 h), if_pos h]
  · rw [if_pos (Nat.not_lt.1 h), if_neg h]

variable (cfg : Cfg) (T : Nat) (ws : List Int) (minPw maxPw : Int)

/-- `V` is kept apart from `pre v`: `round_eq` takes the slice `v := ws.take mx` and
`V := pre ws`. -/
theorem forLoop_pairs (v : List Int) (V : Nat → Int)
    (hV : ∀ q, q < v.length → pre v q = V q) (s mn0 : Nat) (left0 : Int) (hs : 1 ≤ s) :
    ∀ (f p idx : Nat) (psum : Int) (mn : Nat) (left : Int),
      p = mn0 + idx * s → left0 + psum = pre v p → v.length ≤ p + f →
      forLoop minPw maxPw (prefixPairs s mn0 left0 (chunkSums s f (v.drop p)) idx psum) mn v.length left
        = scanFrom minPw maxPw V s f p mn v.length left := by
  intro f
  induction f with
  | zero => intros; rfl
  | succ f ih =>
    intro p idx psum mn left hp hsum hf
    by_cases hlt : p < v.length
    · have hnext : left0 + (psum + ((v.drop p).take s).sum) = pre v (p + s) := by
        rw [pre_add, ← hsum, Int.add_assoc]
      have hp' : p + s = mn0 + (idx + 1) * s := by rw [Nat.succ_mul, ← Nat.add_assoc, ← hp]
      have hf' : v.length ≤ p + s + f := Nat.le_trans hf (by omega)
      rw [chunkSums_drop, if_pos hlt, prefixPairs, forLoop, scanFrom, if_pos hlt, ← hp, hsum, hV p hlt,
        ih (p + s) (idx + 1) _ p (V p) hp' hnext hf']
    · rw [chunkSums_drop, if_neg hlt, scanFrom, if_neg hlt]; rfl

theorem round_eq (mn mx : Nat) (left : Int)
    (h1 : mn ≤ mx) (h2 : mx ≤ ws.length) (hc : max cfg.minChunks T ≠ 0) (hl : left = pre ws mn) :
    round cfg T ws minPw maxPw mn mx left =
      .ok (scanFrom minPw maxPw (pre ws) (max 1 ((mx - mn) / max cfg.minChunks T))
        (mx - mn) mn mn mx left) := by
  have hlen : (ws.take mx).length = mx := by rw [List.length_take, Nat.min_eq_left h2]
  have hslice : (ws.drop mn).take (mx - mn) = (ws.take mx).drop mn := by rw [List.drop_take]
  have hsl : ((ws.take mx).drop mn).length = mx - mn := by rw [List.length_drop, hlen]
  have := forLoop_pairs minPw maxPw (ws.take mx) (pre ws)
    (fun q hq => pre_take ws mx q (by rw [hlen] at hq; exact Nat.le_of_lt hq))
    (max 1 ((mx - mn) / max cfg.minChunks T)) mn left (Nat.le_max_left _ _) (mx - mn) mn 0 0 mn left
    (by rw [Nat.zero_mul]; rfl) (by rw [Int.add_zero, pre_take _ _ _ h1, hl]) (by rw [hlen]; omega)
  rw [hlen] at this
  simp only [round]
  rw [if_neg (by omega), if_neg hc, hslice, hsl, this]

theorem scan_ret (V : Nat → Int) (s : Nat)
    (f p mn mx : Nat) (left : Int) (pos : Nat) (l : Int)
    (h : scanFrom minPw maxPw V s f p mn mx left = .ret pos l) :
    pos < mx ∧ l = V pos ∧ minPw ≤ l ∧ l ≤ maxPw := by
  -- the cases of `scanFrom`: 1 no fuel, 2 prefix at `p` below the bracket (the scan goes on),
  -- 3 above it (`break`), 4 inside it (`return`), 5 `p` beyond `max`
  fun_induction scanFrom minPw maxPw V s f p mn mx left with
  | case1 => cases h
  | case2 f p mn mx left hlt hv ih => exact ih h
  | case3 => cases h
  | case4 f p mn mx left hlt hv hv2 =>
    cases h
    exact ⟨hlt, rfl, Int.not_lt.1 hv, Int.not_lt.1 hv2⟩
  | case5 => cases h

/-- The last clause: the new window is empty only if the old one was, or if the very first probe
is `min` itself and leaves by `break`. -/
theorem scan_cont (V : Nat → Int) (s : Nat) (hs : 1 ≤ s)
    (f p mn mx : Nat) (left : Int) (mn' mx' : Nat) (left' : Int)
    (h1 : mn ≤ p) (h2 : p ≤ mn + s) (h3 : mn ≤ mx) (hf : mx ≤ p + f) (hl : left = V mn)
    (h : scanFrom minPw maxPw V s f p mn mx left = .cont mn' mx' left') :
    mn' ≤ mx' ∧ mx' ≤ mx ∧ mx' ≤ mn' + s ∧ left' = V mn' ∧
      (mn' = mn ∨ (mn' < mx ∧ V mn' < minPw)) ∧
      (mx' = mx ∨ (mx' < mx ∧ maxPw < V mx')) ∧
      (p < mx → V p < minPw ∨ maxPw < V p) ∧
      (mn < mx → mn < p ∨ V p < minPw → mn' < mx') := by
  fun_induction scanFrom minPw maxPw V s f p mn mx left with
  | case1 p mn mx left =>
    cases h
    exact ⟨h3, Nat.le_refl _, Nat.le_trans hf h2, hl, .inl rfl, .inl rfl,
      fun h => absurd hf (Nat.not_le.2 h), fun h _ => h⟩
  | case2 f p mn mx left hlt hv ih =>
    obtain ⟨b, c, d, e, e', g, _, i⟩ :=
      ih (Nat.le_add_right p s) (Nat.le_refl _) (Nat.le_of_lt hlt) (by omega) rfl h
    exact ⟨b, c, d, e, .inr (e'.elim (fun e' => e' ▸ ⟨hlt, hv⟩) id), g,
      fun _ => .inl hv, fun _ _ => i hlt (.inl (by omega))⟩
  | case3 f p mn mx left hlt hv hv2 =>
    cases h
    exact ⟨h1, Nat.le_of_lt hlt, h2, hl, .inl rfl, .inr ⟨hlt, hv2⟩, fun _ => .inr hv2,
      fun _ hp => hp.resolve_right hv⟩
  | case4 => cases h
  | case5 f p mn mx left hlt =>
    cases h
    exact ⟨h3, Nat.le_refl _, by omega, hl, .inl rfl, .inl rfl,
      fun h => absurd h hlt, fun h _ => h⟩

theorem chunk_lt {w c s : Nat} (hc : 2 ≤ c) (hs : max 1 (w / c) = s) (h2 : 2 ≤ s) : s < w := by
  have : w / c ≤ w / 2 := Nat.div_le_div_left hc (by omega)
  omega

theorem medianLoop_returns (hc : 2 ≤ max cfg.minChunks T) :
    ∀ (fuel mn mx : Nat) (left : Int),
      mn ≤ mx → mx ≤ ws.length → left = pre ws mn → mx - mn < fuel →
      ∃ r, medianLoop cfg T ws minPw maxPw fuel mn mx left = .ok r := by
  intro fuel
  induction fuel with
  | zero => intro _ _ _ _ _ _ h; exact absurd h (Nat.not_lt_zero _)
  | succ fuel ih =>
    intro mn mx left h1 h2 hl hf
    rw [medianLoop, round_eq cfg T ws minPw maxPw mn mx left h1 h2 (by omega) hl]
    generalize hs : max 1 ((mx - mn) / max cfg.minChunks T) = s
    cases hr : scanFrom minPw maxPw (pre ws) s (mx - mn) mn mn mx left with
    | ret pos l => exact ⟨_, rfl⟩
    | cont mn' mx' left' =>
      obtain ⟨b, c, d, hl', _⟩ := scan_cont _ _ _ s (by omega) _ _ _ _ _ _ _ _ (Nat.le_refl mn)
        (Nat.le_add_right mn s) h1 (Nat.le_of_eq (Nat.add_sub_of_le h1).symm) hl hr
      simp only
      split
      · exact ⟨_, rfl⟩
      · next hw =>
        -- the new window is at most one chunk wide, and with two chunks or more a chunk is
        -- shorter than the old window
        have := chunk_lt hc hs (by omega)
        exact ih mn' mx' left' b (Nat.le_trans c h2) hl' (by omega)

/-- The balance clause rests on the loop invariant "the prefix at `max` is above the bracket
(or `max = len`) and `left_weight` is below it"; in the very first round `left_weight = 0` is only
known not to be above it, whence the disjunction. -/
theorem medianLoop_spec (hc : max cfg.minChunks T ≠ 0) :
    ∀ (fuel mn mx : Nat) (left : Int) (pos : Nat) (l : Int),
      mn ≤ mx → mx ≤ ws.length → left = pre ws mn →
      medianLoop cfg T ws minPw maxPw fuel mn mx left = .ok (pos, l) →
      l = pre ws pos ∧ (mn < mx → pos < mx ∧
        ((mx < ws.length → maxPw < pre ws mx) → (left < minPw ∨ ¬ maxPw < left) →
          (minPw ≤ l ∧ l ≤ maxPw) ∨
          (l < minPw ∧ (pos + 1 < ws.length → maxPw < pre ws (pos + 1))))) := by
  intro fuel
  induction fuel with
  | zero => intro _ _ _ _ _ _ _ _ h; cases h
  | succ fuel ih =>
    intro mn mx left pos l h1 h2 hl h
    rw [medianLoop, round_eq cfg T ws minPw maxPw mn mx left h1 h2 hc hl] at h
    generalize hs : max 1 ((mx - mn) / max cfg.minChunks T) = s at h
    have hs1 : 1 ≤ s := hs ▸ Nat.le_max_left _ _
    cases hr : scanFrom minPw maxPw (pre ws) s (mx - mn) mn mn mx left with
    | ret pos' l' =>
      rw [hr] at h
      cases h
      obtain ⟨b, c, d, e⟩ := scan_ret _ _ _ _ _ _ _ _ _ _ _ hr
      exact ⟨c, fun _ => ⟨b, fun _ _ => .inl ⟨d, e⟩⟩⟩
    | cont mn' mx' left' =>
      obtain ⟨b, c, _, hl', e, g, i, j⟩ := scan_cont _ _ _ s hs1 _ _ _ _ _ _ _ _ (Nat.le_refl mn)
        (Nat.le_add_right mn s) h1 (Nat.le_of_eq (Nat.add_sub_of_le h1).symm) hl hr
      -- the invariant of the balance clause passes to the new window; the first probe is `min`
      -- itself with value `left_weight`, and it did not return
      have hinv : mn < mx → (mx < ws.length → maxPw < pre ws mx) → (left < minPw ∨ ¬ maxPw < left) →
          mn' < mx' ∧ left' < minPw ∧ (mx' < ws.length → maxPw < pre ws mx') := by
        intro hlt hmx hleft
        rw [hl] at hleft
        have hfirst : pre ws mn < minPw := (i hlt).elim id fun h => hleft.elim id fun h' => absurd h h'
        refine ⟨j hlt (.inr hfirst), hl' ▸ e.elim (fun e => e ▸ hfirst) (·.2), fun h => ?_⟩
        rcases g with g | ⟨_, g⟩
        · rw [g] at h ⊢; exact hmx h
        · exact g
      rw [hr] at h
      simp only at h
      split at h
      · next hw =>
        cases h
        refine ⟨hl', fun hlt => ⟨e.elim (fun e => e ▸ hlt) (·.1), fun hmx hleft => ?_⟩⟩
        obtain ⟨k1, k2, k3⟩ := hinv hlt hmx hleft
        have : pos + 1 = mx' := Nat.le_antisymm k1 hw
        exact .inr ⟨k2, this ▸ k3⟩
      · next hw =>
        obtain ⟨e1, e3⟩ := ih mn' mx' left' pos l b (Nat.le_trans c h2) hl' h
        refine ⟨e1, fun hlt => ?_⟩
        obtain ⟨e3, e4⟩ := e3 (Nat.lt_of_succ_lt (Nat.not_le.1 hw))
        refine ⟨Nat.lt_of_lt_of_le e3 c, fun hmx hleft => ?_⟩
        obtain ⟨_, k2, k3⟩ := hinv hlt hmx hleft
        exact e4 k3 (.inl k2)

/-- Defect D4 in general form: with a single chunk (`chunk_count = 1`, i.e. the
code before the fix on a one-thread pool) a state with at least two slabs left
and `left_weight` below the bracket is a fixed point of the loop. -/
theorem medianLoop_stuck (mn mx : Nat) (left : Int)
    (h1 : mn + 1 < mx) (h2 : mx ≤ ws.length) (hl : left = pre ws mn) (hlt : left < minPw) :
    ∀ fuel, medianLoop { minChunks := 1 } 1 ws minPw maxPw fuel mn mx left = .error .outOfFuel := by
  obtain ⟨f, rfl⟩ := Nat.exists_eq_add_of_lt h1
  have hw : mn + 1 + f + 1 - mn = f + 2 := by omega
  intro fuel
  induction fuel with
  | zero => rfl
  | succ fuel ih =>
    -- one chunk of `max - min` slabs: the only probe is `min`, and the window stays as it is
    have hlt' := Nat.lt_of_succ_lt h1
    rw [medianLoop, round_eq _ 1 ws minPw maxPw mn _ left (Nat.le_of_lt hlt') h2 (by decide) hl,
      hw, Nat.max_self, Nat.div_one, Nat.max_eq_right (Nat.le_add_left 1 (f + 1)),
      scanFrom, if_pos hlt', ← hl, if_pos hlt, scanFrom, if_neg (by omega)]
    simp only
    rw [if_neg (by omega)]
    exact ih

theorem median_spec (pos : Nat) (l : Int)
    (hc : max cfg.minChunks T ≠ 0) (h : weightedMedian cfg T ws minPw maxPw = .ok (pos, l)) :
    l = pre ws pos ∧ (0 < ws.length → pos < ws.length ∧ (0 ≤ maxPw →
      (minPw ≤ l ∧ l ≤ maxPw) ∨
      (l < minPw ∧ (pos + 1 < ws.length → maxPw < pre ws (pos + 1))))) := by
  obtain ⟨a, b⟩ := medianLoop_spec cfg T ws minPw maxPw hc (ws.length + 1) 0 ws.length 0 pos l
    (Nat.zero_le _) (Nat.le_refl _) (pre_zero ws).symm h
  refine ⟨a, fun hlen => ⟨(b hlen).1, fun h0 => ?_⟩⟩
  exact (b hlen).2 (fun h => absurd h (Nat.lt_irrefl _)) (.inr (Int.not_lt.2 h0))

theorem median_ok (hc : 2 ≤ max cfg.minChunks T) :
    ∃ pos l, weightedMedian cfg T ws minPw maxPw = .ok (pos, l) ∧ (0 < ws.length → pos < ws.length) := by
  obtain ⟨⟨pos, l⟩, h⟩ := medianLoop_returns cfg T ws minPw maxPw hc (ws.length + 1) 0 ws.length 0
    (Nat.zero_le _) (Nat.le_refl _) (pre_zero ws).symm (Nat.lt_succ_self _)
  exact ⟨pos, l, h, fun hlen => ((median_spec cfg T ws minPw maxPw pos l (by omega) h).2 hlen).1⟩

end Coupe.GridRcb
