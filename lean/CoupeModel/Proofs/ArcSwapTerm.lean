import CoupeModel.Proofs.ArcSwapRun

/-!
# ArcSwap: no panic, and every pass terminates under every schedule

* `noPanic_reach`: `Pc.panic` (the `unwrap()` of an empty maximum) is unreachable when
  `part_count ≥ 2`.
* A potential `stepsLeft c s : Nat` (`mu` in the lemma names) that EVERY step of EVERY task strictly decreases
  (`step_decreases`):  `stepsLeft = (cut + negW) · U + Σ_tasks pot`, where `cut + negW ≥ 0` bounds the
  number of moves still possible (every move lowers the cut by its gain `≥ 1`), `pot` is the
  number of steps a task can still do without moving (each attempt pops the `cut` stack; the
  chunk scan advances) and `U` pays for the post-move loop and the (at most `deg`) pushes of a
  move.  All constants are explicit functions of the input (`maxDeg`, `part_count`).
* Consequences: a schedule executes at most `stepsLeft` steps of a pass, and the default completion
  finishes with any fuel `> stepsLeft`.
* `runLoop_outcome`, the one induction over the pass loop: `ok` comes from a reachable state whose pass
  had no gain, `panic` does not occur, and `fuel` means that a default completion ran out of fuel or
  that the allowed passes were all counted; with `fuel > fuelBound` and `passes ≥ passesBound`
  neither happens (`Props/C05.lean`).
-/

namespace Coupe.ArcSwap

def NoPanic (s : State) : Prop := ∀ t ∈ s.tasks, t.pc ≠ .panic

/-- `Pc.panic` is unreachable: it is not a well-formed local state. -/
theorem noPanic_reach {c : Cfg} {p₀ : List Nat} (hc : CfgOk c p₀) {s : State} (h : Reach c p₀ s) :
    NoPanic s := by
  intro t ht hp
  obtain ⟨i, hi⟩ := List.getElem?_of_mem ht
  have := ((inv1_reach hc h).tok i t hi).2
  rwa [hp] at this

theorem noPanic_any {s : State} (h : NoPanic s) : s.tasks.any (fun t => t.pc == .panic) = false := by
  rw [List.any_eq_false]
  intro t ht
  simpa using h t ht

/-- Largest row length. -/
def maxDeg (g : Graph) : Nat := (g.map List.length).foldr max 0

theorem deg_le_maxDeg (g : Graph) (v : Nat) : deg g v ≤ maxDeg g := by
  unfold deg adj maxDeg
  induction g generalizing v with
  | nil => simp
  | cons row g ih =>
    cases v with
    | zero => simp only [List.getD_cons_zero, List.map_cons, List.foldr_cons]; omega
    | succ v =>
      simp only [List.getD_cons_succ, List.map_cons, List.foldr_cons]
      have := ih v
      omega

/-- gain phase of one vertex: at most `P` targets × (`D` neighbours + 1). -/
def cG (D P : Nat) : Nat := P * (D + 1) + D
/-- one attempt (`cas` … `unlock`), without the post-move loop. -/
def cA (D P : Nat) : Nat := cG D P + D + 5
/-- one iteration of the post-move loop (including the attempt its push causes). -/
def cQ (D P : Nat) : Nat := cA D P + cG D P + 2
/-- what a move costs: the release + the whole post-move loop. -/
def cU (D P : Nat) : Nat := D * cQ D P + cQ D P + 1
/-- one iteration of the chunk scan (including the attempt its push causes). -/
def cS (D P : Nat) : Nat := cA D P + D + 2

/-- What is left after the current attempt: the stack and the rest of the chunk scan. -/
def base (D P n hi scan : Nat) : Nat := n * cA D P + (hi - scan - 1) * cS D P + 1

/-- Potential of a local state (`n` = height of the `cut` stack). -/
def potOf (D P : Nat) (n hi scan lo : Nat) : Pc → Nat
  | .notStarted => n * cA D P + (hi - lo) * cS D P + 2
  | .scanOwn _ => cS D P + base D P n hi scan
  | .scanNbr _ _ k => cA D P + 1 + (D - k) + base D P n hi scan
  | .cas _ => cA D P + base D P n hi scan
  | .nbrLock _ k => cG D P + 4 + (D - k) + base D P n hi scan
  | .ownPart _ => cG D P + 3 + base D P n hi scan
  | .gainRd _ _ tgt k _ _ => (P - tgt) * (D + 1) + (D - k) + 2 + base D P n hi scan
  | .store _ _ _ _ => 1 + base D P n hi scan
  | .unlock _ .moved => cU D P + base D P n hi scan
  | .unlock _ _ => 1 + base D P n hi scan
  | .postNbr _ k => (D - k) * cQ D P + cQ D P + base D P n hi scan
  | .postGain _ k _ tgt k2 _ _ =>
    (D - k) * cQ D P + cA D P + 1 + (P - tgt) * (D + 1) + (D - k2) + base D P n hi scan
  | .atEnd => 1
  | .done => 0
  | .panic => 0

def pot (D P : Nat) (t : Task) : Nat := potOf D P t.cut.length t.hi t.scan t.lo t.pc

def tbase (D P : Nat) (t : Task) : Nat := base D P t.cut.length t.hi t.scan

theorem mul_sub_step {P a b E : Nat} (h1 : a < b) (h2 : b < P) : (P - b) * E + E ≤ (P - a) * E := by
  have h : P - b + 1 ≤ P - a := by omega
  calc (P - b) * E + E = (P - b + 1) * E := (Nat.succ_mul _ _).symm
    _ ≤ (P - a) * E := Nat.mul_le_mul_right E h

theorem sub_mul_le (P a E : Nat) : (P - a) * E ≤ P * E := Nat.mul_le_mul_right E (Nat.sub_le _ _)

/-- One iteration of the chunk scan is paid for by one `cS` of `base`. -/
theorem base_scan (D P n : Nat) {hi scan : Nat} (h : scan < hi) :
    cS D P + base D P n hi scan = n * cA D P + (hi - scan) * cS D P + 1 := by
  obtain ⟨m, hm⟩ : ∃ m, hi - scan = m + 1 := ⟨hi - scan - 1, by omega⟩
  simp only [base, hm, Nat.add_sub_cancel, Nat.succ_mul]
  omega

theorem nextScan_pot (D P : Nat) (t : Task) : pot D P (nextScan t) ≤ tbase D P t := by
  unfold nextScan
  split_ifs with h
  · have := base_scan D P t.cut.length h
    simp only [pot, potOf, tbase, base, Nat.sub_add_eq] at this ⊢
    omega
  · simp only [pot, potOf, tbase, base]
    omega

theorem popCut_pot (D P : Nat) (t : Task) : pot D P (popCut t) ≤ tbase D P t := by
  unfold popCut
  split
  · exact nextScan_pot D P t
  · next v rest hc =>
    simp only [pot, potOf, tbase, base, hc, List.length_cons, Nat.succ_mul]
    omega

theorem tbase_push (D P : Nat) (t : Task) (v : Nat) :
    tbase D P { t with cut := v :: t.cut } = tbase D P t + cA D P := by
  simp only [tbase, base, List.length_cons, Nat.succ_mul]
  omega

theorem postNext_pot {c : Cfg} {D : Nat} (hD : ∀ v, deg c.g v ≤ D) (P : Nat) (t : Task) (mv k : Nat) :
    pot D P (postNext c t mv k) ≤ (D - k) * cQ D P + tbase D P t := by
  unfold postNext
  split_ifs with h
  · have := mul_sub_step (E := cQ D P) (Nat.lt_add_one k) (Nat.lt_of_lt_of_le h (hD mv))
    simp only [pot, potOf, tbase]
    omega
  · have := popCut_pot D P t
    omega

def evAllow (D P : Nat) : Event → Nat
  | .partStore _ _ => cU D P
  | _ => 0

/-- Every step of a task lowers its potential, except the store of a move, which may raise
it by less than `U`. -/
theorem TStep.pot_lt {c : Cfg} {D : Nat} (hD : ∀ v, deg c.g v ≤ D) {tmax : List Int} {t t' : Task} {ev : Event}
    {pc : Pc} (hs : TStep c tmax t pc t' ev) :
    pot D c.partCount t' <
      potOf D c.partCount t.cut.length t.hi t.scan t.lo pc + evAllow D c.partCount ev := by
  cases hs with
  | begin h =>
    have := base_scan D c.partCount t.cut.length h
    simp only [pot, potOf, evAllow]
    omega
  | beginEmpty | finish | ownPanic | lockRaced | lockLast | ownIsolated | gainNone | gainOverCap | gainStore | store =>
    simp only [pot, potOf, evAllow]
    omega
  | scanFirst =>
    simp only [pot, potOf, evAllow, cS]
    omega
  | casIsolated | casFirst =>
    simp only [pot, potOf, evAllow, cA]
    omega
  | unlockPost =>
    simp only [pot, potOf, evAllow, cU, Nat.sub_zero]
    omega
  | postPanic =>
    simp only [pot, potOf, evAllow, cQ]
    omega
  | scanNext h | lockNext h | gainNext h | postGainNext h =>
    have := Nat.lt_of_lt_of_le h (hD _)
    simp only [pot, potOf, evAllow]
    omega
  | scanIsolated | scanLast =>
    have := nextScan_pot D c.partCount t
    simp only [potOf, evAllow, tbase, cS] at this ⊢
    omega
  | @scanCut v =>
    have := popCut_pot D c.partCount { t with cut := v :: t.cut }
    rw [tbase_push] at this
    simp only [potOf, evAllow, tbase] at this ⊢
    omega
  | casFail =>
    have := popCut_pot D c.partCount { t with md := { t.md with lockedCount := t.md.lockedCount + 1 } }
    simp only [potOf, evAllow, tbase, cA] at this ⊢
    omega
  | @unlockPop v a =>
    have := popCut_pot D c.partCount t
    cases a <;> simp only [potOf, evAllow, tbase, cU] at this ⊢ <;> omega
  | @ownFirst _ _ tgt =>
    have := sub_mul_le c.partCount tgt (D + 1)
    simp only [pot, potOf, evAllow, Nat.sub_zero, cG]
    omega
  | @postFirst _ _ _ tgt =>
    have := sub_mul_le c.partCount tgt (D + 1)
    simp only [pot, potOf, evAllow, Nat.sub_zero, cQ, cG]
    omega
  | @gainTarget _ _ tgt _ _ _ _ tgt' _ h | @postGainTarget _ _ _ tgt _ _ _ _ tgt' _ h =>
    obtain ⟨h2, -, h3⟩ := nextTarget_spec h
    have := mul_sub_step (E := D + 1) (show tgt < tgt' from h3) h2
    simp only [pot, potOf, evAllow]
    omega
  | @postIsolated mv k | @postGainSkip mv k =>
    have := postNext_pot hD c.partCount t mv k
    simp only [potOf, evAllow, tbase, cQ] at this ⊢
    omega
  | @postGainPush mv k =>
    have := postNext_pot hD c.partCount { t with cut := nbr c.g mv k :: t.cut } mv k
    rw [tbase_push] at this
    simp only [potOf, evAllow, tbase] at this ⊢
    omega

/-- Sum of the negative parts of all stored edge weights (`0` on a graph with non-negative
edge weights): `cut g p ≥ -negW g` for every `p`. -/
def negW (g : Graph) : Nat := ((edges g).map fun e => (-e.2.2).toNat).sum

theorem negW_eq_zero {g : Graph} (hw : ∀ e ∈ edges g, 0 ≤ e.2.2) : negW g = 0 := by
  unfold negW
  generalize edges g = l at hw
  induction l with
  | nil => rfl
  | cons e l ih =>
    simp only [List.map_cons, List.sum_cons]
    have := ih fun e he => hw e (List.mem_cons_of_mem _ he)
    have := hw e List.mem_cons_self
    omega

theorem cut_lower (g : Graph) (p : List Nat) : 0 ≤ cut g p + (negW g : Int) := by
  rw [cut_eq_S]
  unfold S negW
  generalize edges g = l
  induction l with
  | nil => simp
  | cons e l ih =>
    simp only [List.map_cons, List.sum_cons, Int.natCast_add]
    split_ifs <;> omega

/-- Upper bound on the number of moves still possible from the partition `parts`
(every move lowers the cut by at least 1). -/
def movesLeft (c : Cfg) (parts : List Nat) : Nat := (cut c.g parts + (negW c.g : Int)).toNat

theorem movesLeft_store {c : Cfg} {parts parts' : List Nat} {gain : Int}
    (h : 0 < gain ∧ cut c.g parts' = cut c.g parts - gain) : movesLeft c parts' + 1 ≤ movesLeft c parts := by
  have := cut_lower c.g parts'
  unfold movesLeft
  omega

def sumPot (D P : Nat) (l : List Task) : Nat := (l.map (pot D P)).sum

theorem sumPot_set (D P : Nat) {l : List Task} {i : Nat} {t : Task} (t' : Task) (h : l[i]? = some t) :
    sumPot D P (l.set i t') + pot D P t = sumPot D P l + pot D P t' := by
  obtain ⟨a, b, rfl, e⟩ := set_split t' h
  simp only [sumPot, e, List.map_append, List.map_cons, List.sum_append_nat, List.sum_cons]
  omega

theorem sum_map_le_nat {α} (l : List α) (f : α → Nat) (b : Nat) (h : ∀ x ∈ l, f x ≤ b) :
    (l.map f).sum ≤ l.length * b := by
  induction l with
  | nil => simp
  | cons a l ih =>
    simp only [List.map_cons, List.sum_cons, List.length_cons, Nat.succ_mul]
    have := h a List.mem_cons_self
    have := ih fun x hx => h x (List.mem_cons_of_mem _ hx)
    omega

/-- The potential of a state of a pass: an upper bound on the number of steps (of all
tasks together, under any schedule) the pass can still perform. -/
def stepsLeft (c : Cfg) (s : State) : Nat :=
  movesLeft c s.parts * cU (maxDeg c.g) c.partCount + sumPot (maxDeg c.g) c.partCount s.tasks

theorem step_decreases {c : Cfg} {p₀ : List Nat} (hy : Hyp c p₀) {s s' : State} {tid : Nat} {ev : Event}
    (h : Reach c p₀ s) (hstep : step c s tid = some (s', ev)) : stepsLeft c s' < stepsLeft c s := by
  obtain ⟨t, t', ht, hst, rfl⟩ := step_spec hstep
  have hp : pot _ _ t' < pot _ _ t + _ := hst.1.pot_lt (deg_le_maxDeg c.g)
  have hsum := sumPot_set (maxDeg c.g) c.partCount t' ht
  unfold stepsLeft
  simp only
  by_cases hev : ∃ v q, ev = .partStore v q
  · obtain ⟨v, q, rfl⟩ := hev
    obtain ⟨ip, gain, hpc, -⟩ := hst.1.store_inv
    -- the move lowers `movesLeft` by at least one, which pays for the allowance
    have hmul := Nat.mul_le_mul_right (cU (maxDeg c.g) c.partCount)
      (movesLeft_store ((inv2_reach hy h).store_gain hy (inv1_reach hy.cfg h) ht hpc))
    rw [Nat.succ_mul] at hmul
    simp only [Event.applyParts, evAllow] at hp ⊢
    omega
  · -- any other step leaves the partition alone and has no allowance
    have h0 : ev.applyParts s.parts = s.parts ∧ evAllow (maxDeg c.g) c.partCount ev = 0 := by
      cases ev with
      | partStore v q => exact (hev ⟨v, q, rfl⟩).elim
      | _ => exact ⟨rfl, rfl⟩
    rw [h0.2] at hp
    rw [h0.1]
    omega

theorem firstLive_some {s : State} {tid : Nat} (h : firstLive s = some tid) :
    ∃ t, s.tasks[tid]? = some t ∧ t.pc ≠ .done ∧ t.pc ≠ .panic := by
  unfold firstLive at h
  simp only [Option.map_eq_some_iff] at h
  obtain ⟨x, hx, rfl⟩ := h
  have hp := List.find?_some hx
  have hm := List.mem_of_find?_eq_some hx
  obtain ⟨t, i⟩ := x
  exact ⟨t, List.mem_zipIdx_iff_getElem?.1 hm, by simpa using hp⟩

theorem step_of_live (c : Cfg) {s : State} {tid : Nat} {t : Task} (ht : s.tasks[tid]? = some t)
    (h1 : t.pc ≠ .done) (h2 : t.pc ≠ .panic) : ∃ s' ev, step c s tid = some (s', ev) := by
  obtain ⟨t', ev, hst⟩ := stepTask_some (c := c) s.parts s.locks s.tmax h1 h2
  unfold step
  rw [ht]
  simp only [hst]
  exact ⟨_, _, rfl⟩

/-- No deadlock: a reachable state in which not every task is done has an enabled task. -/
theorem progress {c : Cfg} {p₀ : List Nat} (hc : CfgOk c p₀) {s : State} (h : Reach c p₀ s)
    (hnd : allDone s = false) : ∃ tid s' ev, step c s tid = some (s', ev) := by
  cases hfl : firstLive s with
  | none => rw [allDone_of_firstLive hfl (noPanic_any (noPanic_reach hc h))] at hnd; cases hnd
  | some tid =>
    obtain ⟨t, ht, h1, h2⟩ := firstLive_some hfl
    exact ⟨tid, step_of_live c ht h1 h2⟩

theorem runSchedule_mu {c : Cfg} {p₀ : List Nat} (hy : Hyp c p₀) (sched : List Nat) {s : State}
    (tr : List (Nat × Event)) (h : Reach c p₀ s) :
    (runSchedule c s sched tr).2.length + stepsLeft c (runSchedule c s sched tr).1 ≤ tr.length + stepsLeft c s := by
  induction sched generalizing s tr with
  | nil => exact Nat.le_refl _
  | cons tid rest ih =>
    unfold runSchedule
    split
    · exact ih tr h
    · next s' ev hst =>
      have := ih ((tid, ev) :: tr) (Reach.step h hst)
      have := step_decreases hy h hst
      simp only [List.length_cons] at *
      omega

theorem finishPass_total {c : Cfg} {p₀ : List Nat} (hy : Hyp c p₀) (fuel : Nat) {s : State}
    (tr : List (Nat × Event)) (h : Reach c p₀ s) (hf : stepsLeft c s < fuel) :
    ∃ s' tr', finishPass c fuel s tr = some (s', tr') := by
  induction fuel generalizing s tr with
  | zero => omega
  | succ fuel ih =>
    unfold finishPass
    cases hfl : firstLive s with
    | none => exact ⟨s, tr, rfl⟩
    | some tid =>
      obtain ⟨t, ht, h1, h2⟩ := firstLive_some hfl
      obtain ⟨s', ev, hst⟩ := step_of_live c ht h1 h2
      simp only [hst]
      have := step_decreases hy h hst
      exact ih _ (Reach.step h hst) (by omega)

theorem finishPass_mu {c : Cfg} {p₀ : List Nat} (hy : Hyp c p₀) (fuel : Nat) {s s' : State}
    {tr tr' : List (Nat × Event)} (h : Reach c p₀ s) (hf : finishPass c fuel s tr = some (s', tr')) :
    tr'.length + stepsLeft c s' ≤ tr.length + stepsLeft c s := by
  obtain ⟨sched, e, -⟩ := finishPass_eq_runSchedule fuel hf
  have := runSchedule_mu hy sched tr h
  rwa [e] at this

/-- Bound on the number of passes: `cut(input) + negW + 1` (`= cut(input) + 1` when no edge
weight is negative). -/
def passesBound (c : Cfg) (p₀ : List Nat) : Nat := movesLeft c p₀ + 1

/-- Bound on the number of steps of ONE pass (all tasks together, any schedule), uniform
over the passes: a function of the input only. -/
def fuelBound (c : Cfg) (p₀ : List Nat) : Nat :=
  movesLeft c p₀ * cU (maxDeg c.g) c.partCount +
    c.threadCount * (c.ipt * cS (maxDeg c.g) c.partCount + 2)

theorem movesLeft_le {c : Cfg} {p₀ : List Nat} (hy : Hyp c p₀) {s : State} (h : Reach c p₀ s) :
    movesLeft c s.parts ≤ movesLeft c p₀ := by
  have h2 := inv2_reach hy h
  have h4 := h2.cutAcct
  have h6 := sum_map_nonneg (l := s.tasks) (fun t => t.md.edgeCutGain) h2.gainNonneg.2
  have := h2.gainNonneg.1
  unfold movesLeft
  omega

theorem passCount_le {c : Cfg} {p₀ : List Nat} (hy : Hyp c p₀) {s : State} (h : Reach c p₀ s) :
    s.md.passCount ≤ passesBound c p₀ := by
  have h2 := inv2_reach hy h
  have h3 := h2.passes.1
  have h4 := h2.cutAcct
  have h5 := cut_lower c.g s.parts
  have h6 := sum_map_nonneg (l := s.tasks) (fun t => t.md.edgeCutGain) h2.gainNonneg.2
  have h7 := cut_lower c.g p₀
  unfold passesBound movesLeft
  omega

theorem sumPot_mkTasks (c : Cfg) (D P n : Nat) (pw : List Int) :
    sumPot D P (mkTasks c n pw) ≤ c.threadCount * (c.ipt * cS D P + 2) := by
  unfold sumPot
  have := sum_map_le_nat (mkTasks c n pw) (pot D P) (c.ipt * cS D P + 2) (by
    intro t ht
    obtain ⟨i, hi⟩ := List.getElem?_of_mem ht
    rw [mkTasks_get hi]
    simp only [pot, potOf, List.length_nil, Nat.zero_mul, Nat.zero_add]
    have e : (i + 1) * c.ipt = i * c.ipt + c.ipt := Nat.succ_mul _ _
    have : min n ((i + 1) * c.ipt) - i * c.ipt ≤ c.ipt := by omega
    have := Nat.mul_le_mul_right (cS D P) this
    omega)
  rw [mkTasks_length] at this
  exact this

theorem mu_beginPass_le {c : Cfg} {p₀ : List Nat} (hy : Hyp c p₀) {s : State}
    (h : Reach c p₀ (beginPass c s)) : stepsLeft c (beginPass c s) ≤ fuelBound c p₀ := by
  have h1 := movesLeft_le hy h
  have h2 := sumPot_mkTasks c (maxDeg c.g) c.partCount s.parts.length s.pw
  have h3 := Nat.mul_le_mul_right (cU (maxDeg c.g) c.partCount) h1
  unfold stepsLeft fuelBound
  simp only [beginPass] at h1 h3 ⊢
  omega

/-- In every reachable state the potential is below `fuelBound` (it only decreases inside a
pass, and every pass starts below it). -/
theorem mu_le_fuelBound {c : Cfg} {p₀ : List Nat} (hy : Hyp c p₀) {s : State} (h : Reach c p₀ s) :
    stepsLeft c s ≤ fuelBound c p₀ := by
  induction h with
  | init => exact mu_beginPass_le hy Reach.init
  | step hr hstep ih => have := step_decreases hy hr hstep; omega
  | pass hr hd ha _ => exact mu_beginPass_le hy (Reach.pass hr hd ha)

theorem step_md {c : Cfg} {s s' : State} {tid : Nat} {ev : Event} (h : step c s tid = some (s', ev)) :
    s'.md = s.md := by
  obtain ⟨t, t', -, -, rfl⟩ := step_spec h
  rfl

theorem runSchedule_md (c : Cfg) (sched : List Nat) (s : State) (tr : List (Nat × Event)) :
    (runSchedule c s sched tr).1.md = s.md := by
  induction sched generalizing s tr with
  | nil => rfl
  | cons tid rest ih =>
    unfold runSchedule
    split
    · exact ih s tr
    · next s' ev hst => rw [ih, step_md hst]

theorem finishPass_md {c : Cfg} (fuel : Nat) {s s' : State} {tr tr' : List (Nat × Event)}
    (hf : finishPass c fuel s tr = some (s', tr')) : s'.md = s.md := by
  obtain ⟨sched, e, -⟩ := finishPass_eq_runSchedule fuel hf
  have := runSchedule_md c sched s tr
  rwa [e] at this

/-- What an outcome of the pass loop tells; `k` is the pass count at which the loop gives up. -/
def OutcomeOk (c : Cfg) (p₀ : List Nat) (fuel k : Nat) : Outcome → Prop
  | .ok ids md => ∃ s', Reach c p₀ s' ∧ allDone s' = true ∧ (endPass c s').2 = false ∧ ids = s'.parts ∧
      md = { (endPass c s').1.md with verticesPerThread := c.ipt }
  | .panic => False
  | .fuel => ∃ s', Reach c p₀ s' ∧ ((∃ tr, finishPass c fuel s' tr = none) ∨ k ≤ s'.md.passCount)

theorem runLoop_outcome {c : Cfg} {p₀ : List Nat} (hc : CfgOk c p₀) (fuel passes : Nat) (s : State)
    (scheds : List (List Nat)) (acc : List (List (Nat × Event))) (h : Reach c p₀ (beginPass c s))
    {k : Nat} (hk : k ≤ (beginPass c s).md.passCount + passes) :
    OutcomeOk c p₀ fuel k (runLoop c fuel passes s scheds acc).1 := by
  induction passes generalizing s scheds acc with
  | zero => exact ⟨_, h, .inr hk⟩
  | succ passes ih =>
    have h2 := runSchedule_reach (scheds.headD []) [] h
    unfold runLoop
    simp only
    split
    · next hfin => exact ⟨_, h2, .inl ⟨_, hfin⟩⟩
    · next s3 tr3 hfin =>
      obtain ⟨h3, hlive⟩ := finishPass_reach fuel h2 hfin
      have hnp := noPanic_any (noPanic_reach hc h3)
      have hdone := allDone_of_firstLive hlive hnp
      simp only [hnp, Bool.false_eq_true, if_false]
      split
      · next hagain =>
        refine ih _ _ _ (Reach.pass h3 hdone hagain) ?_
        -- the merge adds the tasks' pass counters to the state's (they are all zero; `≤` is enough)
        have g := (foldl_merge s3.tasks s3.md).2.2
        have := sum_map_nonneg (l := s3.tasks) (fun t => (t.md.passCount : Int)) fun _ _ => Int.natCast_nonneg _
        have : (beginPass c (endPass c s3).1).md.passCount =
            (s3.tasks.foldl (fun m t => m.merge t.md) s3.md).passCount + 1 := rfl
        have hmd : s3.md = (beginPass c s).md := by rw [finishPass_md fuel hfin, runSchedule_md]
        rw [← hmd] at hk
        omega
      · next hagain => exact ⟨s3, h3, hdone, by simpa using hagain, rfl, rfl⟩

theorem run_outcome {c : Cfg} {p₀ : List Nat} (hc : CfgOk c p₀) (scheds : List (List Nat)) (fuel passes : Nat)
    {k : Nat} (hk : k ≤ passes + 1) : OutcomeOk c p₀ fuel k (run c p₀ scheds fuel passes).1 :=
  runLoop_outcome hc fuel passes _ scheds [] Reach.init (Nat.add_comm .. ▸ hk)

end Coupe.ArcSwap
