import CoupeModel.Model.Basic
import CoupeModel.Model.ArcSwap
import CoupeModel.Proofs.ArcSwapAcct

/-!
# ArcSwap: the end-of-pass merge of the per-task part weights stays in range (K9)

Lemmas for `Props/C05c.lean`.  The reduce of `arc_swap.rs` sums, per part, what every
task brought in (`gains`) and what it took out (`losses`); rayon combines adjacent
results along an arbitrary tree, so the values it ever holds are the sums over
sub-collections of the tasks — modelled as ANY sublist of `s.tasks`.
-/

namespace Coupe.ArcSwap

/-- Sum of the gains of part `p` over a collection of tasks. -/
def mGain (l : List Task) (p : Nat) (pw0 : Int) : Int := (l.map fun t => taskGain pw0 (t.pw.getD p 0)).sum
/-- Sum of the losses of part `p` over a collection of tasks. -/
def mLoss (l : List Task) (p : Nat) (pw0 : Int) : Int := (l.map fun t => taskLoss pw0 (t.pw.getD p 0)).sum

theorem taskGain_nonneg (a b : Int) : 0 ≤ taskGain a b := by unfold taskGain; split <;> omega
theorem taskLoss_nonneg (a b : Int) : 0 ≤ taskLoss a b := by unfold taskLoss; split <;> omega

theorem mGain_nonneg (l : List Task) (p : Nat) (pw0 : Int) : 0 ≤ mGain l p pw0 :=
  sum_map_nonneg _ fun _ _ => taskGain_nonneg _ _
theorem mLoss_nonneg (l : List Task) (p : Nat) (pw0 : Int) : 0 ≤ mLoss l p pw0 :=
  sum_map_nonneg _ fun _ _ => taskLoss_nonneg _ _

theorem sum_map_sublist_le {l' l : List Task} (f : Task → Int) (hf : ∀ t, 0 ≤ f t) (h : l'.Sublist l) :
    (l'.map f).sum ≤ (l.map f).sum := by
  induction h with
  | slnil => simp
  | cons a _ ih => simp only [List.map_cons, List.sum_cons]; have := hf a; omega
  | cons_cons a _ ih => simp only [List.map_cons, List.sum_cons]; omega

theorem mGain_sublist_le {l' l : List Task} (p : Nat) (pw0 : Int) (h : l'.Sublist l) :
    mGain l' p pw0 ≤ mGain l p pw0 := sum_map_sublist_le _ (fun _ => taskGain_nonneg _ _) h
theorem mLoss_sublist_le {l' l : List Task} (p : Nat) (pw0 : Int) (h : l'.Sublist l) :
    mLoss l' p pw0 ≤ mLoss l p pw0 := sum_map_sublist_le _ (fun _ => taskLoss_nonneg _ _) h

theorem load_nonneg (ws : List Int) (ids : List Nat) (k : Nat) (hw : ∀ v, 0 ≤ ws.getD v 0) :
    0 ≤ Coupe.load ws ids k :=
  Coupe.load_nonneg (fun w hm => by
    obtain ⟨i, hi, rfl⟩ := List.mem_iff_getElem.1 hm
    have := hw i
    rwa [getD_eq_getElem 0 hi] at this) ids k

/-- Every task's gain is within its share of the head-room, so the gains of ALL tasks fit
under the larger of the pass's initial weight and the cap, hence of the input load and the cap. -/
theorem gain_all_le {c : Cfg} {p₀ : List Nat} {s : State} (hy : Hyp c p₀) (h : Inv2 c p₀ s) (p : Nat)
    (hp : p < c.partCount) :
    s.pw.getD p 0 + mGain s.tasks p (s.pw.getD p 0) ≤ max (Coupe.load c.w p₀ p) c.maxPw :=
  Int.le_trans
    (sum_le_of_share _ _ c.maxPw hy.tpos h.ntasks fun t ht => by
      have := h.room ht hp
      unfold taskGain
      split <;> omega)
    (Int.max_le.2 ⟨h.passBound p hp, Int.le_max_right ..⟩)

theorem merge_is_load {c : Cfg} {p₀ : List Nat} {s : State} (h : Inv2 c p₀ s) (p : Nat) (hp : p < c.partCount) :
    s.pw.getD p 0 + mGain s.tasks p (s.pw.getD p 0) - mLoss s.tasks p (s.pw.getD p 0) =
      Coupe.load c.w s.parts p := by
  rw [h.loadAcct p hp]
  have := gainSum_sub_lossSum s.tasks p (s.pw.getD p 0)
  unfold mGain mLoss
  omega

/-- The weight a pass starts from is a true load, hence non-negative. -/
theorem pw_nonneg_reach {c : Cfg} {p₀ : List Nat} (hy : Hyp c p₀) {s : State} (h : Reach c p₀ s) :
    ∀ p, p < c.partCount → 0 ≤ s.pw.getD p 0 := by
  induction h with
  | init =>
    intro p hp
    simp only [beginPass, initState]
    rw [loads_getD _ _ hp]
    exact load_nonneg _ _ _ hy.wnonneg
  | step hr hstep ih =>
    obtain ⟨_, _, _, _, rfl⟩ := step_spec hstep
    exact ih
  | @pass s hr hdone hagain ih =>
    obtain ⟨_, _, _, _, _, _, _, e8⟩ := endPass_facts hy (inv2_reach hy hr)
    intro p hp
    have : (beginPass c (endPass c s).1).pw = (endPass c s).1.pw := rfl
    rw [this, ← e8 p hp]
    exact load_nonneg _ _ _ hy.wnonneg

end Coupe.ArcSwap
