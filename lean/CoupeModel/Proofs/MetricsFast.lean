import CoupeModel.Model.MetricsFast
import CoupeModel.Proofs.Metrics

/-! The array-backed evaluators of `Model/MetricsFast.lean` (what the driver runs on large inputs)
read their arrays as the list models do. -/

namespace Coupe.Metrics

theorem getD_toList {α : Type} (a : Array α) (i : Nat) (d : α) :
    a.getD i d = a.toList.getD i d := by
  rw [Array.getD_eq_getD_getElem?, List.getD_eq_getElem?_getD, Array.getElem?_toList]

theorem partA_eq (p : Array Nat) : partA p = part p.toList :=
  funext fun i => getD_toList p i 0

theorem sumToAcc_eq (f : Nat → Int) (n : Nat) (acc : Int) : sumToAcc f n acc = acc + sumTo n f := by
  induction n generalizing acc with
  | zero => simp [sumToAcc, sumTo]
  | succ n ih => simp only [sumToAcc, sumTo, ih]; omega

end Coupe.Metrics
