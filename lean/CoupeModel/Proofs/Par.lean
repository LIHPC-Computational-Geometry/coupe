import CoupeModel.Model.Par
import CoupeModel.Proofs.Basic

/-!
# Lemmas about the parallel skeletons (`Model/Par.lean`)

One argument serves every reduction of the code (`parFold_eq_foldl_of_comm`): when the reduce
closure commutes with one step of the fold closure, the value along EVERY split tree is the
sequential fold's; what the result is, is then a matter of the sequential fold alone
(`foldl_spec`).  After the reductions: stores to distinct cells in any order
(`foldl_perm_of_nodup_key`), the `fetch_add` numbering up to renaming (`fetchAddIds`, `canon`), and
the block search of MultiJagged's scans.
-/

namespace Coupe.Par

theorem foldl_spec {α β} (f : β → α → β) (R : β → List α → Prop) {init : β} (hinit : R init [])
    (hstep : ∀ a xs x, R a xs → R (f a x) (xs ++ [x])) (xs : List α) :
    R (xs.foldl f init) xs := by
  suffices h : ∀ (ys pre : List α) (a : β), R a pre → R (ys.foldl f a) (pre ++ ys) from
    h xs [] init hinit
  intro ys
  induction ys with
  | nil => intro pre a h; rwa [List.append_nil]
  | cons y ys ih =>
    intro pre a h
    rw [List.append_cons]
    exact ih _ _ (hstep a pre y h)

theorem foldl_hom {α β γ} (φ : β → γ) (P : β → Prop) {f : β → α → β} {g : γ → α → γ}
    (hP : ∀ b x, P b → P (f b x)) (hφ : ∀ b x, P b → φ (f b x) = g (φ b) x) :
    ∀ (xs : List α) (b : β), P b → φ (xs.foldl f b) = xs.foldl g (φ b)
  | [], _, _ => rfl
  | x :: xs, b, h => by
    rw [List.foldl_cons, foldl_hom φ P hP hφ xs _ (hP b x h), hφ b x h, List.foldl_cons]

section comm

variable {α β} {f : β → α → β} {g : β → β → β} {init : β}

theorem merge_foldl (hstep : ∀ a b x, g a (f b x) = f (g a b) x) :
    ∀ (ys : List α) (a b : β), g a (ys.foldl f b) = ys.foldl f (g a b)
  | [], _, _ => rfl
  | y :: ys, a, b => by rw [List.foldl_cons, merge_foldl hstep ys, hstep, List.foldl_cons]

theorem merge_foldl_foldl (hstep : ∀ a b x, g a (f b x) = f (g a b) x)
    (hinit : ∀ xs : List α, g (xs.foldl f init) init = xs.foldl f init) (xs ys : List α) :
    g (xs.foldl f init) (ys.foldl f init) = (xs ++ ys).foldl f init := by
  rw [merge_foldl hstep, hinit, List.foldl_append]

/-- The reductions of the code are instances: sums and counts (`g` associative, `init` neutral),
minima and maxima (`init` not neutral), the nearest-item tuple of `par_rcb_split` (`g` keeps the
left candidate on a tie, as `f` keeps the first), the per-part weight vector. -/
theorem parFold_eq_foldl_of_comm (hstep : ∀ a b x, g a (f b x) = f (g a b) x)
    (hinit : ∀ xs : List α, g (xs.foldl f init) init = xs.foldl f init) :
    ∀ (t : SplitTree) (xs : List α), parFold f g init t xs = xs.foldl f init
  | .leaf, _ => rfl
  | .node k l r, xs => by
    rw [parFold, parFold_eq_foldl_of_comm hstep hinit l, parFold_eq_foldl_of_comm hstep hinit r,
      merge_foldl_foldl hstep hinit, List.take_append_drop]

theorem parFoldR_eq_foldl_of_comm (hstep : ∀ a b x, g a (f b x) = f (g a b) x)
    (hinit : ∀ xs : List α, g (xs.foldl f init) init = xs.foldl f init) {e : β}
    (he : g e init = init) :
    ∀ (t : SplitTree) (xs : List α), parFoldR f init g e t xs = xs.foldl f init
  | .leaf, _ => by rw [parFoldR, merge_foldl hstep, he]
  | .node k l r, xs => by
    rw [parFoldR, parFoldR_eq_foldl_of_comm hstep hinit he l,
      parFoldR_eq_foldl_of_comm hstep hinit he r, merge_foldl_foldl hstep hinit,
      List.take_append_drop]

end comm

theorem parFoldWith_eq_some {α β} (f : β → α → β) (g : β → β → β) (init : β) :
    ∀ (t : SplitTree) (xs : List α), parFoldWith f g init t xs = some (parFold f g init t xs)
  | .leaf, _ => rfl
  | .node k l r, xs => by
    rw [parFoldWith, parFoldWith_eq_some f g init l, parFoldWith_eq_some f g init r, parFold]

theorem step_comm_of_assoc {α β} {op : β → β → β} {embed : α → β} {f : β → α → β}
    (hassoc : ∀ a b c, op (op a b) c = op a (op b c)) (hf : ∀ a x, f a x = op a (embed x))
    (a b : β) (x : α) : op a (f b x) = f (op a b) x := by
  rw [hf, hf, hassoc]

theorem inj_of_nodup_map {α β} (f : α → β) {xs : List α} (hn : (xs.map f).Nodup) :
    ∀ a ∈ xs, ∀ b ∈ xs, f a = f b → a = b := by
  have hp : xs.Pairwise (fun a b => f a ≠ f b) := List.pairwise_map.1 hn
  exact fun a ha b hb => List.Pairwise.forall_of_forall_of_flip
    (R := fun a b => f a = f b → a = b) (fun _ _ _ => rfl) (hp.imp fun h e => absurd e h)
    (hp.imp fun h e => absurd e.symm h) ha hb

theorem write_comm {α} (a : List α) (w1 w2 : Nat × α) (h : w1.1 ≠ w2.1) :
    write (write a w1) w2 = write (write a w2) w1 :=
  List.set_comm _ _ h

theorem foldl_perm_of_nodup_key {α β κ} [DecidableEq κ] {f : β → α → β} (key : α → κ)
    {l l' : List α}
    (hp : l.Perm l') (hn : (l.map key).Nodup)
    (hcomm : ∀ z x y, key x ≠ key y → f (f z x) y = f (f z y) x) (b : β) :
    l.foldl f b = l'.foldl f b :=
  hp.foldl_eq' (fun x hx y hy z => by
    by_cases h : key x = key y
    · rw [inj_of_nodup_map key hn x hx y hy h]
    · exact hcomm z x y h) b

theorem disjointWrites_length {α} (ws : List (Nat × α)) :
    ∀ a : List α, (disjointWrites a ws).length = a.length := by
  induction ws with
  | nil => intro a; rfl
  | cons w ws ih => intro a; exact (ih (write a w)).trans (List.length_set ..)

theorem disjointWrites_get_of_not_mem {α} (ws : List (Nat × α)) (i : Nat) :
    ∀ a : List α, i ∉ ws.map (·.1) → (disjointWrites a ws)[i]? = a[i]? := by
  induction ws with
  | nil => intro a _; rfl
  | cons w ws ih =>
    intro a hi
    simp only [List.map_cons, List.mem_cons, not_or] at hi
    exact (ih (write a w) hi.2).trans (List.getElem?_set_ne (Ne.symm hi.1))

theorem disjointWrites_get_of_mem {α} (ws : List (Nat × α)) (i : Nat) (v : α) :
    ∀ a : List α, (ws.map (·.1)).Nodup → (i, v) ∈ ws → i < a.length →
      (disjointWrites a ws)[i]? = some v := by
  induction ws with
  | nil => intro a _ h; cases h
  | cons w ws ih =>
    intro a hn hm hi
    simp only [List.map_cons, List.nodup_cons] at hn
    rcases List.mem_cons.mp hm with rfl | h
    · exact (disjointWrites_get_of_not_mem ws i _ hn.1).trans (by simp [write, hi])
    · exact ih (write a w) hn.2 h (by simpa [write] using hi)

theorem flatten_chunksAux {α} (k : Nat) (hk : 1 ≤ k) :
    ∀ (fuel : Nat) (l : List α), l.length ≤ fuel → (chunksAux k fuel l).flatten = l
  | 0, l, h => by rw [List.eq_nil_of_length_eq_zero (Nat.le_zero.1 h)]; rfl
  | _ + 1, [], _ => rfl
  | n + 1, x :: xs, h => by
    have hlen : ((x :: xs).drop k).length ≤ n := by
      simp only [List.length_drop, List.length_cons] at h ⊢
      omega
    rw [chunksAux, if_neg (by simp), List.flatten_cons, flatten_chunksAux k hk n _ hlen,
      List.take_append_drop]

theorem flatten_chunks {α} (k : Nat) (hk : 1 ≤ k) (l : List α) : (chunks k l).flatten = l :=
  flatten_chunksAux k hk l.length l (Nat.le_refl _)

theorem flatten_zcurveChunks (perm : List Nat) (pc : Nat) :
    (zcurveChunks perm pc).flatten = perm := by
  simp only [zcurveChunks, List.flatten_append]
  rw [flatten_chunks _ (Nat.le_add_left 1 _), flatten_chunks _ (Nat.le_max_right _ 1),
    List.take_append_drop]

theorem labelWrites_targets (cs : List (List Nat × Nat)) :
    (labelWrites cs).map (·.1) = (cs.map (·.1)).flatten := by
  simp [labelWrites, List.flatMap_def, Function.comp_def]

theorem enumerate_fst {α} (l : List α) : (enumerate l).map (·.1) = l := by
  simp [enumerate]

theorem mem_labelWrites (cs : List (List Nat × Nat)) (i v : Nat) :
    (i, v) ∈ labelWrites cs ↔ ∃ c ∈ cs, i ∈ c.1 ∧ v = c.2 := by
  simp only [labelWrites, List.mem_flatMap, List.mem_map, Prod.mk.injEq]
  constructor
  · rintro ⟨c, hc, j, hj, rfl, rfl⟩
    exact ⟨c, hc, hj, rfl⟩
  · rintro ⟨c, hc, hi, rfl⟩
    exact ⟨c, hc, i, hi, rfl, rfl⟩

/-- "`a` summarises the range `xs` correctly": everything the rest of
`par_rcb_split` reads from the tuple, stated without reference to any order of
evaluation. -/
structure NearestSpec (target : Int) (a : Acc) (xs : List Item) : Prop where
  count : a.count = (xs.filter (fun x => decide (x.coord - target < 0))).length
  weight : a.weight = ((xs.filter (fun x => decide (x.coord - target < 0))).map (·.weight)).sum
  inf_iff : a.dist = .inf ↔ ∀ x ∈ xs, x.coord - target < 0
  lower : ∀ d, a.dist = .fin d → ∀ x ∈ xs, 0 ≤ x.coord - target → d ≤ x.coord - target
  idx_none : a.idx = none ↔ a.dist = .inf
  idx_some : ∀ j, a.idx = some j →
    ∃ x ∈ xs, x.idx = j ∧ 0 ≤ x.coord - target ∧ a.dist = .fin (x.coord - target)

theorem nearestMerge_eq_old_swap (a b : Acc) : nearestMerge a b = nearestMergeOld b a := by
  unfold nearestMerge nearestMergeOld
  rw [Nat.add_comm a.count, Int.add_comm a.weight]

theorem nearestMergeOld_init_left (a : Acc) : nearestMergeOld nearestInit a = a := by
  obtain ⟨c, w, i, d⟩ := a
  simp [nearestMergeOld, nearestInit, Dist.lt]

/-- Only for the tuples a fold can produce: on `(Some(_), INFINITY)` the identity's `None`
would be kept. -/
theorem nearestMerge_init_left (a : Acc) (h : a.dist = .inf → a.idx = none) :
    nearestMerge nearestInit a = a := by
  obtain ⟨c, w, i, d⟩ := a
  cases d with
  | inf =>
    obtain rfl : i = none := h rfl
    simp [nearestMerge, nearestInit, Dist.lt]
  | fin e => simp [nearestMerge, nearestInit, Dist.lt]

theorem nearestMerge_init_right (a : Acc) : nearestMerge a nearestInit = a := by
  obtain ⟨c, w, i, d⟩ := a
  cases d <;> simp [nearestMerge, nearestInit, Dist.lt]

theorem Dist.lt_trans {a b c : Dist} (h1 : a.lt b = true) (h2 : b.lt c = true) :
    a.lt c = true := by
  cases a <;> cases b <;> cases c <;> simp [Dist.lt] at * <;> omega

theorem Dist.lt_of_lt_of_not_lt {a b c : Dist} (h1 : a.lt b = true) (h2 : c.lt b = false) :
    a.lt c = true := by
  cases a <;> cases b <;> cases c <;> simp [Dist.lt] at * <;> omega

theorem Dist.min_comm (a b : Dist) : (if a.lt b then a else b) = if b.lt a then b else a := by
  cases a <;> cases b <;> simp only [Dist.lt, Bool.false_eq_true, ↓reduceIte, decide_eq_true_eq]
  split <;> split <;> simp only [Dist.fin.injEq] <;> omega

/-- Ties included: both sides keep the earlier candidate.  No property of `dist` is used: it
may round. -/
theorem nearestMerge_stepD (dist : Int → Int → Int) (target : Int) (a b : Acc) (x : Item) :
    nearestMerge a (nearestStepD dist target b x) =
      nearestStepD dist target (nearestMerge a b) x := by
  obtain ⟨c1, w1, i1, d1⟩ := a
  obtain ⟨c2, w2, i2, d2⟩ := b
  simp only [nearestStepD, nearestMerge]
  generalize dist x.coord target = e
  by_cases hneg : e < 0
  · simp only [hneg, ↓reduceIte]
    split <;> simp only [Nat.add_assoc, Int.add_assoc]
  · simp only [hneg, ↓reduceIte]
    -- the new candidate `e` beats the merged pair iff it beats the one the merge keeps
    cases h2 : Dist.lt (.fin e) d2 <;> cases h21 : Dist.lt d2 d1
    · cases h1 : Dist.lt (.fin e) d1
      · simp [h21, h1]
      · rw [Dist.lt_of_lt_of_not_lt h1 h21] at h2; cases h2
    · simp [h2, h21]
    · simp
    · simp [h2, Dist.lt_trans h2 h21]

theorem parNearestD_eq_foldl (dist : Int → Int → Int) (target : Int) (t : SplitTree)
    (xs : List Item) :
    parNearestD dist target t xs = xs.foldl (nearestStepD dist target) nearestInit :=
  parFoldR_eq_foldl_of_comm (nearestMerge_stepD dist target) (fun _ => nearestMerge_init_right _)
    rfl t xs

theorem nearestStepD_sub : nearestStepD (fun c t => c - t) = nearestStep := rfl

theorem parNearestD_sub (target : Int) (t : SplitTree) (xs : List Item) :
    parNearestD (fun c t => c - t) target t xs = parNearest target t xs := rfl

theorem parNearest_eq_foldl (target : Int) (t : SplitTree) (xs : List Item) :
    parNearest target t xs = xs.foldl (nearestStep target) nearestInit :=
  parNearestD_eq_foldl _ target t xs

/-- Count and weight of the items left of the target and, as pivot, the FIRST item in range
order among those at the least non-negative (rounded) distance – every earlier item on the
right of the target is strictly farther, every later one at least as far. -/
structure FirstNearest (dist : Int → Int → Int) (target : Int) (a : Acc) (xs : List Item) :
    Prop where
  count : a.count = (xs.filter (fun x => decide (dist x.coord target < 0))).length
  weight : a.weight = ((xs.filter (fun x => decide (dist x.coord target < 0))).map (·.weight)).sum
  idx_none : a.idx = none ↔ a.dist = .inf
  inf_iff : a.dist = .inf ↔ ∀ x ∈ xs, dist x.coord target < 0
  first : ∀ j, a.idx = some j → ∃ pre x post, xs = pre ++ x :: post ∧ x.idx = j ∧
    0 ≤ dist x.coord target ∧ a.dist = .fin (dist x.coord target) ∧
    (∀ y ∈ pre, 0 ≤ dist y.coord target → dist x.coord target < dist y.coord target) ∧
    (∀ y ∈ post, 0 ≤ dist y.coord target → dist x.coord target ≤ dist y.coord target)

theorem FirstNearest.lower {dist : Int → Int → Int} {target : Int} {a : Acc} {xs : List Item}
    (h : FirstNearest dist target a xs) :
    ∀ e0, a.dist = .fin e0 → ∀ y ∈ xs, 0 ≤ dist y.coord target → e0 ≤ dist y.coord target := by
  intro e0 hd y hy hy0
  cases hi : a.idx with
  | none => rw [h.idx_none.1 hi] at hd; cases hd
  | some j =>
    obtain ⟨pre, z, post, e, _, _, h3, h4, h5⟩ := h.first j hi
    rw [hd] at h3
    simp only [Dist.fin.injEq] at h3
    subst e
    simp only [List.mem_append, List.mem_cons] at hy
    rcases hy with hy | rfl | hy
    · have := h4 y hy hy0; omega
    · omega
    · have := h5 y hy hy0; omega

theorem FirstNearest.toSpec {target : Int} {a : Acc} {xs : List Item}
    (h : FirstNearest (fun c t => c - t) target a xs) : NearestSpec target a xs :=
  ⟨h.count, h.weight, h.inf_iff, h.lower, h.idx_none, fun j hj =>
    let ⟨_, x, _, e, h1, h2, h3, _⟩ := h.first j hj
    ⟨x, e ▸ List.mem_append_right _ List.mem_cons_self, h1, h2, h3⟩⟩

theorem firstNearest_init (dist : Int → Int → Int) (target : Int) :
    FirstNearest dist target nearestInit [] :=
  ⟨rfl, rfl, ⟨fun _ => rfl, fun _ => rfl⟩, ⟨nofun, fun _ => rfl⟩, nofun⟩

theorem firstNearest_step (dist : Int → Int → Int) (target : Int) (a : Acc) (xs : List Item)
    (x : Item) (h : FirstNearest dist target a xs) :
    FirstNearest dist target (nearestStepD dist target a x) (xs ++ [x]) := by
  have hlow := h.lower
  obtain ⟨c, w, i, d⟩ := a
  obtain ⟨hc, hw, hnone, hinf, hfirst⟩ := h
  simp only at hc hw hnone hinf hfirst hlow
  unfold nearestStepD
  simp only
  -- the pivot stays the first nearest item if `x` is left of the target or not nearer
  have hkeep : ∀ j, i = some j →
      (∀ e0, d = .fin e0 → e0 ≤ dist x.coord target ∨ dist x.coord target < 0) →
      ∃ pre z post, xs ++ [x] = pre ++ z :: post ∧ z.idx = j ∧
        0 ≤ dist z.coord target ∧ d = .fin (dist z.coord target) ∧
        (∀ y ∈ pre, 0 ≤ dist y.coord target → dist z.coord target < dist y.coord target) ∧
        (∀ y ∈ post, 0 ≤ dist y.coord target → dist z.coord target ≤ dist y.coord target) := by
    intro j hj hx
    obtain ⟨pre, z, post, e, h1, h2, h3, h4, h5⟩ := hfirst j hj
    refine ⟨pre, z, post ++ [x], by simp [e], h1, h2, h3, h4, ?_⟩
    intro y hy hy0
    simp only [List.mem_append, List.mem_singleton] at hy
    rcases hy with hy | rfl
    · exact h5 y hy hy0
    · rcases hx _ h3 with h | h <;> omega
  by_cases hneg : dist x.coord target < 0
  · simp only [hneg, ↓reduceIte]
    refine ⟨by simp [List.filter_append, hneg, hc], by simp [List.filter_append, hneg, hw],
      hnone, ?_, fun j hj => hkeep j hj (fun _ _ => Or.inr hneg)⟩
    rw [hinf]
    simp only [List.mem_append, List.mem_singleton]
    exact ⟨fun h y hy => hy.elim (h y) (fun e => e ▸ hneg), fun h y hy => h y (Or.inl hy)⟩
  · simp only [hneg, ↓reduceIte]
    have hge : 0 ≤ dist x.coord target := by omega
    have hinf' : ∀ d' : Dist, d' = .fin (dist x.coord target) ∨ (d' = d ∧ d ≠ .inf) →
        (d' = .inf ↔ ∀ y ∈ xs ++ [x], dist y.coord target < 0) := by
      intro d' hd'
      refine ⟨fun h => ?_, fun h => absurd (h x (by simp)) hneg⟩
      rcases hd' with rfl | ⟨rfl, hd'⟩
      · cases h
      · exact absurd h hd'
    have hc' : c = ((xs ++ [x]).filter (fun x => decide (dist x.coord target < 0))).length := by
      simp [List.filter_append, hneg, hc]
    have hw' : w = (((xs ++ [x]).filter (fun x => decide (dist x.coord target < 0))).map
        (·.weight)).sum := by
      simp [List.filter_append, hneg, hw]
    by_cases hlt : Dist.lt (.fin (dist x.coord target)) d = true
    · simp only [hlt, ↓reduceIte]
      refine ⟨hc', hw', by simp, hinf' _ (Or.inl rfl), ?_⟩
      intro j hj
      simp only [Option.some.injEq] at hj
      refine ⟨xs, x, [], rfl, hj, hge, rfl, ?_, by simp⟩
      intro y hy hy0
      cases d with
      | inf => have := (hinf.1 rfl) y hy; omega
      | fin e0 =>
        have := hlow e0 rfl y hy hy0
        simp only [Dist.lt, decide_eq_true_eq] at hlt
        omega
    · simp only [hlt, Bool.false_eq_true, ↓reduceIte]
      cases d with
      | inf => simp [Dist.lt] at hlt
      | fin e0 =>
        simp only [Dist.lt, decide_eq_true_eq] at hlt
        refine ⟨hc', hw', hnone, hinf' _ (Or.inr ⟨rfl, by simp⟩), fun j hj => hkeep j hj ?_⟩
        intro e1 he1
        simp only [Dist.fin.injEq] at he1
        exact Or.inl (by omega)

theorem parNearestD_first (dist : Int → Int → Int) (target : Int) (t : SplitTree)
    (xs : List Item) : FirstNearest dist target (parNearestD dist target t xs) xs := by
  rw [parNearestD_eq_foldl]
  exact foldl_spec _ _ (firstNearest_init dist target) (firstNearest_step dist target) xs

theorem parNearest_spec (target : Int) (t : SplitTree) (xs : List Item) :
    NearestSpec target (parNearest target t xs) xs :=
  (parNearestD_first _ target t xs).toSpec

/-- What the reduce closure the code had before /repo f4e2819 and the repaired one agree on:
they differ in which operand they keep on a tie, that is in the index only. -/
def Acc.value (a : Acc) : Nat × Int × Dist := (a.count, a.weight, a.dist)

theorem nearestMergeOld_value {a a' b b' : Acc} (ha : a.value = a'.value)
    (hb : b.value = b'.value) : (nearestMergeOld a b).value = (nearestMerge a' b').value := by
  simp only [Acc.value, Prod.mk.injEq] at ha hb
  have h1 : (nearestMergeOld a b).value =
      (a.count + b.count, a.weight + b.weight, if a.dist.lt b.dist then a.dist else b.dist) := by
    unfold nearestMergeOld; split <;> rfl
  have h2 : (nearestMerge a' b').value = (a'.count + b'.count, a'.weight + b'.weight,
      if b'.dist.lt a'.dist then b'.dist else a'.dist) := by
    unfold nearestMerge; split <;> rfl
  rw [h1, h2, ha.1, ha.2.1, ha.2.2, hb.1, hb.2.1, hb.2.2, Dist.min_comm]

theorem parNearestOldD_value (dist : Int → Int → Int) (target : Int) :
    ∀ (t : SplitTree) (xs : List Item), (parNearestOldD dist target t xs).value =
      (xs.foldl (nearestStepD dist target) nearestInit).value
  | .leaf, _ => by rw [parNearestOldD, parFoldR, nearestMergeOld_init_left]
  | .node k l r, xs =>
    (nearestMergeOld_value (parNearestOldD_value dist target l _)
      (parNearestOldD_value dist target r _)).trans (by
        rw [merge_foldl_foldl (nearestMerge_stepD dist target)
          (fun _ => nearestMerge_init_right _), List.take_append_drop])

theorem pwMerge_pwStep {P} (bucket : P → Nat) (a b : List Int) (x : P × Int) :
    pwMerge a (pwStep bucket b x) = pwStep bucket (pwMerge a b) x := by
  apply List.ext_getElem?
  intro i
  simp only [pwMerge, pwStep, addAt, List.getElem?_zipWith, List.getElem?_modify]
  cases a[i]? <;> cases b[i]? <;> by_cases h : bucket x.1 = i <;> simp [h, Int.add_assoc]

theorem pwMerge_zero (a : List Int) : pwMerge a (List.replicate a.length 0) = a := by
  apply List.ext_getElem?
  intro i
  simp only [pwMerge, List.getElem?_zipWith, List.getElem?_replicate]
  by_cases h : i < a.length
  · simp [h]
  · simp [h]

def bucketSum {P} (bucket : P → Nat) (k : Nat) (xs : List (P × Int)) : Int :=
  ((xs.filter (fun x => bucket x.1 == k)).map (·.2)).sum

def PwSpec {P} (bucket : P → Nat) (n : Nat) (pw : List Int) (xs : List (P × Int)) : Prop :=
  pw.length = n ∧ ∀ k, k < n → pw[k]? = some (bucketSum bucket k xs)

theorem pwSpec_init {P} (bucket : P → Nat) (n : Nat) :
    PwSpec bucket n (List.replicate n 0) [] := by
  refine ⟨by simp, ?_⟩
  intro k hk
  simp [bucketSum, hk]

theorem pwSpec_step {P} (bucket : P → Nat) (n : Nat) (pw : List Int) (xs : List (P × Int))
    (x : P × Int) (h : PwSpec bucket n pw xs) :
    PwSpec bucket n (pwStep bucket pw x) (xs ++ [x]) := by
  obtain ⟨hl, hk⟩ := h
  refine ⟨by simp [pwStep, addAt, hl], ?_⟩
  intro k hkn
  simp only [pwStep, addAt, List.getElem?_modify, hk k hkn, Option.map_eq_map, Option.map_some]
  by_cases hb : bucket x.1 = k <;> simp [bucketSum, List.filter_append, hb]

theorem pwSpec_foldl {P} (bucket : P → Nat) (n : Nat) (xs : List (P × Int)) :
    PwSpec bucket n (xs.foldl (pwStep bucket) (List.replicate n 0)) xs :=
  foldl_spec _ _ (pwSpec_init bucket n) (pwSpec_step bucket n) xs

theorem parPartWeights_eq_foldl {P} (bucket : P → Nat) (n : Nat) (t : SplitTree)
    (xs : List (P × Int)) :
    parPartWeights bucket n t xs = some (xs.foldl (pwStep bucket) (List.replicate n 0)) := by
  rw [parPartWeights, parFoldWith_eq_some, parFold_eq_foldl_of_comm (pwMerge_pwStep bucket)]
  intro ys
  have h := pwMerge_zero (ys.foldl (pwStep bucket) (List.replicate n 0))
  rwa [(pwSpec_foldl bucket n ys).1] at h

theorem idxOf_getD_of_perm_range {m : Nat} {o : List Nat} (h : o.Perm (List.range m)) :
    (∀ leaf, leaf < m → o.idxOf leaf < m ∧ o.getD (o.idxOf leaf) 0 = leaf) ∧
    (∀ k, k < m → o.getD k 0 < m ∧ o.idxOf (o.getD k 0) = k) := by
  have hl : o.length = m := by simpa using h.length_eq
  have hm : ∀ x, x ∈ o ↔ x < m := fun x => by rw [h.mem_iff, List.mem_range]
  have hn : o.Nodup := h.nodup_iff.mpr List.nodup_range
  constructor
  · intro leaf hleaf
    have hlt := List.idxOf_lt_length_iff.mpr ((hm _).mpr hleaf)
    exact ⟨hl ▸ hlt, by simp [List.getD_eq_getElem?_getD, List.getElem?_eq_getElem hlt]⟩
  · intro k hk
    have hk' : k < o.length := hl ▸ hk
    rw [getD_eq_getElem 0 hk']
    exact ⟨(hm _).mp (List.getElem_mem hk'), hn.idxOf_getElem k hk'⟩

theorem fetchAdd_renaming_aux (m : Nat) (o1 o2 : List Nat)
    (h1 : o1.Perm (List.range m)) (h2 : o2.Perm (List.range m)) :
    let ρ : Nat → Nat := fun k => o2.idxOf (o1.getD k 0)
    (∀ a b, a < m → b < m → ρ a = ρ b → a = b) ∧ (∀ a, a < m → ρ a < m) ∧
      (∀ leaf, leaf < m → fetchAddIds o2 leaf = ρ (fetchAddIds o1 leaf)) ∧
      (∀ leaf, leaf < m → fetchAddIds o1 leaf < m) := by
  obtain ⟨hi1, hg1⟩ := idxOf_getD_of_perm_range h1
  obtain ⟨hi2, _⟩ := idxOf_getD_of_perm_range h2
  refine ⟨fun a b ha hb hab => ?_, fun a ha => (hi2 _ (hg1 a ha).1).1,
    fun leaf hleaf => by simp only [fetchAddIds, (hi1 leaf hleaf).2],
    fun leaf hleaf => (hi1 leaf hleaf).1⟩
  -- undo `o2.idxOf`, then `o1.getD`
  have := congrArg (o2.getD · 0) hab
  simp only [(hi2 _ (hg1 a ha).1).2, (hi2 _ (hg1 b hb).1).2] at this
  rw [← (hg1 a ha).2, ← (hg1 b hb).2, this]

theorem idxOf_map_inj (ρ : Nat → Nat) (x : Nat) : ∀ (l : List Nat),
    (∀ b ∈ l, ρ b = ρ x → b = x) → (l.map ρ).idxOf (ρ x) = l.idxOf x
  | [], _ => rfl
  | y :: ys, h => by
    have e : (ρ y == ρ x) = (y == x) :=
      Bool.eq_iff_iff.2 (by simpa using ⟨h y (by simp), congrArg ρ⟩)
    rw [List.map_cons, List.idxOf_cons, List.idxOf_cons, e,
      idxOf_map_inj ρ x ys (fun b hb => h b (List.mem_cons_of_mem _ hb))]

theorem canonAux_map (ρ : Nat → Nat) : ∀ (xs seen : List Nat),
    (∀ a ∈ seen ++ xs, ∀ b ∈ seen ++ xs, ρ a = ρ b → a = b) →
      canonAux (seen.map ρ) (xs.map ρ) = canonAux seen xs
  | [], _, _ => rfl
  | x :: xs, seen, hinj => by
    have hseen : ∀ b ∈ seen, ρ b = ρ x → b = x :=
      fun b hb => hinj b (List.mem_append_left _ hb) x (by simp)
    have hmem : ρ x ∈ seen.map ρ ↔ x ∈ seen :=
      ⟨fun h => by obtain ⟨y, hy, e⟩ := List.mem_map.1 h; exact hseen y hy e ▸ hy,
        List.mem_map_of_mem⟩
    have hsub : ∀ a, a ∈ seen ++ xs → a ∈ seen ++ x :: xs := fun a ha => by
      simp only [List.mem_append, List.mem_cons] at ha ⊢
      exact ha.imp_right Or.inr
    -- `x` is either known, or joins `seen`
    have ih1 := canonAux_map ρ xs seen (fun a ha b hb => hinj a (hsub a ha) b (hsub b hb))
    have ih2 := canonAux_map ρ xs (seen ++ [x])
      (by rwa [List.append_assoc, List.singleton_append])
    simp only [List.map_append, List.map_cons, List.map_nil] at ih2
    simp only [List.map_cons, canonAux, hmem, List.length_map, idxOf_map_inj ρ x seen hseen,
      ih1, ih2]

theorem zipIdx_take {α} : ∀ (l : List α) (n k : Nat), (l.zipIdx n).take k = (l.take k).zipIdx n
  | [], _, _ => by simp
  | _ :: _, _, 0 => by simp
  | _ :: xs, n, k + 1 => by simp [List.zipIdx_cons, zipIdx_take xs]

theorem zipIdx_drop {α} : ∀ (l : List α) (n k : Nat),
    (l.zipIdx n).drop k = (l.drop k).zipIdx (n + k)
  | [], _, _ => by simp
  | _ :: _, _, 0 => by simp
  | _ :: xs, n, k + 1 => by
    simp only [List.zipIdx_cons, List.drop_succ_cons, zipIdx_drop xs, Nat.add_right_comm n,
      Nat.add_assoc]

/-- The enumerated weights of a slab whose first index is `off`. -/
def itemsFrom (off : Nat) (ws : List Int) : List (Nat × Int) :=
  (ws.zipIdx off).map (fun x => (x.2, x.1))

/-- The blocks of a segmentation: `(first index or MAX, weight)`. -/
def blocksOf : Nat → List (List Int) → List (Option Nat × Int)
  | _, [] => []
  | off, s :: ss => (if s = [] then none else some off, s.sum) :: blocksOf (off + s.length) ss

theorem blocksOf_append (a b : List (List Int)) :
    ∀ off, blocksOf off (a ++ b) = blocksOf off a ++ blocksOf (off + a.flatten.length) b := by
  induction a with
  | nil => intro off; simp [blocksOf]
  | cons s ss ih =>
    intro off
    simp only [List.cons_append, blocksOf, ih, List.flatten_cons, List.length_append, List.cons.injEq,
      true_and]
    congr 2
    omega

theorem itemsFrom_cons (off : Nat) (w : Int) (ws : List Int) :
    itemsFrom off (w :: ws) = (off, w) :: itemsFrom (off + 1) ws := rfl

theorem foldl_blockStep_some : ∀ (ws : List Int) (off low : Nat) (s : Int), low ≤ off →
    (itemsFrom off ws).foldl blockStep (some low, s) = (some low, s + ws.sum)
  | [], _, _, _, _ => by simp [itemsFrom]
  | w :: ws, off, low, s, h => by
    rw [itemsFrom_cons, List.foldl_cons, List.sum_cons, ← Int.add_assoc,
      ← foldl_blockStep_some ws (off + 1) low (s + w) (by omega)]
    simp only [blockStep, Nat.min_eq_right h]

theorem foldl_blockStep_leaf : ∀ (ws : List Int) (off : Nat),
    (itemsFrom off ws).foldl blockStep (none, 0) = (if ws = [] then none else some off, ws.sum)
  | [], _ => rfl
  | w :: ws, off => by
    rw [itemsFrom_cons, List.foldl_cons]
    simpa [blockStep] using foldl_blockStep_some ws (off + 1) off w (by omega)

theorem parLeaves_blocks (t : SplitTree) :
    ∀ (ws : List Int) (off : Nat), ∃ segs : List (List Int), segs.flatten = ws ∧
      parLeaves blockStep (none, 0) t (itemsFrom off ws) = blocksOf off segs := by
  induction t with
  | leaf =>
    intro ws off
    refine ⟨[ws], by simp, ?_⟩
    simp [parLeaves, foldl_blockStep_leaf, blocksOf]
  | node k l r ihl ihr =>
    intro ws off
    obtain ⟨sl, hsl, hl⟩ := ihl (ws.take k) off
    obtain ⟨sr, hsr, hr⟩ := ihr (ws.drop k) (off + (ws.take k).length)
    refine ⟨sl ++ sr, by simp [hsl, hsr, List.take_append_drop], ?_⟩
    have htake : (itemsFrom off ws).take k = itemsFrom off (ws.take k) := by
      simp only [itemsFrom, ← List.map_take, zipIdx_take]
    have hdrop : (itemsFrom off ws).drop k = itemsFrom (off + (ws.take k).length) (ws.drop k) := by
      simp only [itemsFrom, ← List.map_drop, zipIdx_drop]
      by_cases hk : k ≤ ws.length
      · have : (ws.take k).length = k := by simp [hk]
        rw [this]
      · have : ws.drop k = [] := List.drop_eq_nil_of_le (by omega)
        simp [this]
    simp only [parLeaves, htake, hdrop, hl, hr, blocksOf_append, hsl]

theorem walk_eq (ws : List Int) (thr : Int) :
    ∀ (fuel idx : Nat) (sum : Int), ws.length - idx ≤ fuel →
      walk ws thr fuel idx sum = idx + firstExceed thr sum (ws.drop idx)
  | 0, idx, sum, h => by rw [List.drop_eq_nil_of_le (by omega)]; rfl
  | n + 1, idx, sum, h => by
    rw [walk]
    by_cases hi : idx < ws.length
    · rw [List.getElem?_eq_getElem hi, List.drop_eq_getElem_cons hi, firstExceed]
      simp only
      split
      · rw [walk_eq ws thr n (idx + 1) _ (by omega)]; omega
      · rfl
    · rw [List.getElem?_eq_none (by omega), List.drop_eq_nil_of_le (by omega)]; rfl

theorem firstExceed_skip (thr : Int) (ys : List Int) : ∀ (xs : List Int) (sum : Int),
    (∀ w ∈ xs, 0 ≤ w) → sum + xs.sum ≤ thr →
      firstExceed thr sum (xs ++ ys) = xs.length + firstExceed thr (sum + xs.sum) ys
  | [], sum, _, _ => by simp
  | x :: xs, sum, hnn, hle => by
    have hrest := sum_nonneg xs (fun w hw => hnn w (List.mem_cons_of_mem _ hw))
    rw [List.sum_cons] at hle
    rw [List.cons_append, firstExceed, if_pos (by omega),
      firstExceed_skip thr ys xs (sum + x) (fun w hw => hnn w (List.mem_cons_of_mem _ hw))
        (by omega), List.sum_cons, Int.add_assoc, List.length_cons]
    omega

theorem blockSearch_spec (len : Nat) (thrB : Int) : ∀ (segs : List (List Int)) (off : Nat)
    (sum : Int), (∀ w ∈ segs.flatten, 0 ≤ w) → sum ≤ thrB →
      ∃ skipped rest : List Int, segs.flatten = skipped ++ rest ∧ sum + skipped.sum ≤ thrB ∧
        blockSearch len thrB sum (blocksOf off segs) =
          (if rest = [] then len else off + skipped.length, sum + skipped.sum)
  | [], _, _, _, h => ⟨[], [], rfl, by simpa using h, by simp [blocksOf, blockSearch]⟩
  | s :: ss, off, sum, hnn, h => by
    rw [List.flatten_cons] at hnn
    by_cases hgt : sum + s.sum > thrB
    · have hne : s ≠ [] := fun he => by rw [he, List.sum_nil] at hgt; omega
      exact ⟨[], s ++ ss.flatten, by simp, by simpa using h,
        by simp [blocksOf, blockSearch, hgt, hne]⟩
    · obtain ⟨sk, rest, hfl, hsum, hres⟩ := blockSearch_spec len thrB ss (off + s.length)
        (sum + s.sum) (fun w hw => hnn w (List.mem_append_right _ hw)) (by omega)
      refine ⟨s ++ sk, rest, by simp [hfl], by rw [List.sum_append]; omega, ?_⟩
      simp only [blocksOf, blockSearch, hgt, ↓reduceIte, hres, List.length_append, List.sum_append]
      congr 1
      · split <;> omega
      · omega

end Coupe.Par
