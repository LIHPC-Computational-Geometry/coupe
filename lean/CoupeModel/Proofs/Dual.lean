import CoupeModel.Model.Dual
import CoupeModel.Proofs.Basic

/-!
Lemmas about the dual-graph model (`Model/Dual.lean`), core Lean only.  Under `Mesh.WF` every
function of the model equals a pure specification (`runWith_eq`: the CSR assembly of the rows
`rowSpec`), from which the properties of `Props/C18.lean` follow.
-/

namespace Coupe.Dual

theorem ElType.npe_pos (ty : ElType) : 0 < ty.npe := by
  cases ty <;> decide

theorem chunksExact_length (k : Nat) (l : List Nat) :
    (chunksExact k l).length = l.length / k := by
  simp [chunksExact]

theorem getElem?_chunksExact {k : Nat} {l : List Nat} {i : Nat} (h : i < l.length / k) :
    (chunksExact k l)[i]? = some (slice l (i * k) k) := by
  simp [chunksExact, h]

/-- All node chunks of a list of blocks, in order: element `e` of `dual`'s
numbering is entry `e`. -/
def allElems (bs : List Block) : List (List Nat) :=
  bs.flatMap (fun b => chunksExact b.ty.npe b.nodes)

theorem allElems_cons (b : Block) (bs : List Block) :
    allElems (b :: bs) = chunksExact b.ty.npe b.nodes ++ allElems bs := by
  simp [allElems]

theorem getElem?_allElems_cons_left {b : Block} (bs : List Block) {i : Nat}
    (h : i < b.nodes.length / b.ty.npe) :
    (allElems (b :: bs))[i]? = some (slice b.nodes (i * b.ty.npe) b.ty.npe) := by
  rw [allElems_cons, List.getElem?_append_left (by rwa [chunksExact_length]), getElem?_chunksExact h]

theorem getElem?_allElems_cons_right (b : Block) (bs : List Block) (i : Nat) :
    (allElems (b :: bs))[b.nodes.length / b.ty.npe + i]? = (allElems bs)[i]? := by
  rw [allElems_cons,
    List.getElem?_append_right (by rw [chunksExact_length]; exact Nat.le_add_right _ _),
    chunksExact_length, Nat.add_sub_cancel_left]

theorem length_allElems (bs : List Block) : (allElems bs).length = (bs.map Block.count).sum := by
  simp only [allElems, List.length_flatMap, chunksExact_length]
  rfl

/-- Node lists are whole numbers of elements (implied by `Mesh.WF`, and by the
MEDIT reader, which rejects short element lines). -/
def Aligned (bs : List Block) : Prop := ∀ b ∈ bs, b.nodes.length % b.ty.npe = 0

theorem elCount_chunksFrom (s : Nat) (bs : List Block) :
    elCount (chunksFrom s bs) = (allElems bs).length := by
  rw [length_allElems]
  induction bs generalizing s with
  | nil => rfl
  | cons b bs ih => simpa [chunksFrom, elCount, Block.count] using ih _

theorem elementToNodes_cons_aligned (s k : Nat) (nodes : List Nat) (cs : List Chunk) (i : Nat)
    (hal : nodes.length % k = 0) :
    elementToNodes (⟨s, k, nodes⟩ :: cs) (s + i) =
      if i < nodes.length / k then some (slice nodes (i * k) k) else elementToNodes cs (s + i) := by
  have hn : nodes.length / k * k = nodes.length := Nat.div_mul_cancel (Nat.dvd_of_mod_eq_zero hal)
  simp only [elementToNodes, Nat.not_lt.2 (Nat.le_add_right _ _), if_false, Nat.add_sub_cancel_left]
  by_cases h : i < nodes.length / k
  · have h1 : i * k + k ≤ nodes.length := by
      rw [← hn, ← Nat.succ_mul]
      exact Nat.mul_le_mul_right _ h
    have hk : 0 < k := Nat.pos_of_ne_zero (by rintro rfl; simp at h)
    rw [if_pos (by omega), if_pos h1, if_pos h]
  · have h1 : ¬ i * k < nodes.length := by
      rw [← hn]
      exact Nat.not_lt.2 (Nat.mul_le_mul_right _ (Nat.le_of_not_lt h))
    rw [if_neg h1, if_neg h]

theorem elementToNodes_chunksFrom (bs : List Block) (hal : Aligned bs) (s i : Nat) :
    elementToNodes (chunksFrom s bs) (s + i) = (allElems bs)[i]? := by
  induction bs generalizing s i with
  | nil => rfl
  | cons b bs ih =>
    rw [chunksFrom, elementToNodes_cons_aligned _ _ _ _ _ (hal b List.mem_cons_self)]
    by_cases h : i < b.nodes.length / b.ty.npe
    · rw [if_pos h, getElem?_allElems_cons_left bs h]
    · obtain ⟨j, rfl⟩ := Nat.exists_eq_add_of_le (Nat.le_of_not_lt h)
      rw [if_neg h, getElem?_allElems_cons_right, ← Nat.add_assoc]
      exact ih (fun b' hb' => hal b' (List.mem_cons_of_mem _ hb')) _ j

def rowT (t : List (List Nat)) (k : Nat) : List Nat := (t[k]?).getD []

theorem mem_insSorted {e x : Nat} {l : List Nat} : x ∈ insSorted e l ↔ x = e ∨ x ∈ l := by
  induction l with
  | nil => simp [insSorted]
  | cons y ys ih =>
    rw [insSorted]
    split
    · exact List.mem_cons
    · split
      · next h => rw [h, List.mem_cons, or_self_left]
      · rw [List.mem_cons, ih, List.mem_cons, or_left_comm]

theorem mem_rowT_set_insSorted {t : List (List Nat)} {node : Nat} (hn : node < t.length)
    (e k x : Nat) :
    x ∈ rowT (t.set node (insSorted e t[node])) k ↔ x ∈ rowT t k ∨ (x = e ∧ k = node) := by
  simp only [rowT, List.getElem?_set]
  by_cases hk : node = k
  · subst hk
    simp [hn, mem_insSorted, or_comm]
  · simp [hk, Ne.symm hk]

theorem addNodes_ok {e : Nat} {ns : List Nat} {t t' : List (List Nat)}
    (h : addNodes e ns t = some t') :
    (∀ x ∈ ns, x < t.length) ∧ t'.length = t.length ∧
      ∀ k x, x ∈ rowT t' k ↔ x ∈ rowT t k ∨ (x = e ∧ k ∈ ns) := by
  induction ns generalizing t with
  | nil =>
    cases h
    simp
  | cons node ns ih =>
    simp only [addNodes] at h
    split at h
    · cases h
    · next l hl =>
      obtain ⟨hn, rfl⟩ := List.getElem?_eq_some_iff.mp hl
      obtain ⟨h1, h2, h3⟩ := ih h
      rw [List.length_set] at h1 h2
      refine ⟨List.forall_mem_cons.2 ⟨hn, h1⟩, h2, fun k x => ?_⟩
      rw [h3, mem_rowT_set_insSorted hn, or_assoc, ← and_or_left, List.mem_cons]

theorem addNodes_total (e : Nat) {ns : List Nat} {t : List (List Nat)}
    (hv : ∀ x ∈ ns, x < t.length) : ∃ t', addNodes e ns t = some t' := by
  induction ns generalizing t with
  | nil => exact ⟨t, rfl⟩
  | cons node ns ih =>
    rw [List.forall_mem_cons] at hv
    simp only [addNodes, List.getElem?_eq_getElem hv.1]
    exact ih (by rw [List.length_set]; exact hv.2)

theorem buildN2E_ok {els t t' : List (List Nat)} {e0 : Nat} (h : buildN2E t e0 els = some t') :
    (∀ ns ∈ els, ∀ x ∈ ns, x < t.length) ∧ t'.length = t.length ∧
      ∀ k x, x ∈ rowT t' k ↔ x ∈ rowT t k ∨ ∃ ns, (ns, x) ∈ els.zipIdx e0 ∧ k ∈ ns := by
  induction els generalizing t e0 with
  | nil =>
    cases h
    simp
  | cons ns rest ih =>
    simp only [buildN2E] at h
    split at h
    · cases h
    · next t1 h1 =>
      obtain ⟨a1, a2, a3⟩ := addNodes_ok h1
      obtain ⟨b1, b2, b3⟩ := ih h
      rw [a2] at b1 b2
      refine ⟨List.forall_mem_cons.2 ⟨a1, b1⟩, b2, fun k x => ?_⟩
      rw [b3, a3, List.zipIdx_cons, or_assoc]
      simp only [List.mem_cons, Prod.mk.injEq, or_and_right, exists_or, and_assoc, exists_eq_left]

theorem buildN2E_total {els t : List (List Nat)} (e0 : Nat)
    (hv : ∀ ns ∈ els, ∀ x ∈ ns, x < t.length) : ∃ t', buildN2E t e0 els = some t' := by
  induction els generalizing t e0 with
  | nil => exact ⟨t, rfl⟩
  | cons ns rest ih =>
    rw [List.forall_mem_cons] at hv
    obtain ⟨t1, h1⟩ := addNodes_total e0 hv.1
    simp only [buildN2E, h1]
    exact ih _ (by rw [(addNodes_ok h1).2.1]; exact hv.2)

def IsIndex (els t : List (List Nat)) : Prop :=
  ∀ k x, x ∈ rowT t k ↔ ∃ ns, els[x]? = some ns ∧ k ∈ ns

theorem nodeToElements_ok {n : Nat} {els t : List (List Nat)} (h : nodeToElements n els = some t) :
    (∀ ns ∈ els, ∀ x ∈ ns, x < n) ∧ t.length = n ∧ IsIndex els t := by
  obtain ⟨h1, h2, h3⟩ := buildN2E_ok h
  rw [List.length_replicate] at h1 h2
  refine ⟨h1, h2, fun k x => ?_⟩
  have : rowT (List.replicate n ([] : List Nat)) k = [] := by
    simp only [rowT, List.getElem?_replicate]
    split <;> rfl
  simp only [h3, this, List.not_mem_nil, false_or, List.mem_zipIdx_iff_getElem?]

theorem nodeToElements_total {n : Nat} {els : List (List Nat)}
    (hv : ∀ ns ∈ els, ∀ x ∈ ns, x < n) : ∃ t, nodeToElements n els = some t :=
  buildN2E_total 0 (by rwa [List.length_replicate])

theorem candidates_spec (t : List (List Nat)) (ns : List Nat) (hv : ∀ x ∈ ns, x < t.length) :
    candidates t ns = some (ns.flatMap (rowT t)) := by
  induction ns with
  | nil => rfl
  | cons node ns ih =>
    rw [List.forall_mem_cons] at hv
    simp [candidates, ih hv.2, rowT, hv.1]

theorem filterNeighbors_spec (d : Nat) (chunks : List Chunk) (e1 : Nat) (e1n : List Nat)
    (look : Nat → List Nat) (cands : List Nat)
    (h : ∀ e2 ∈ cands, e2 ≠ e1 → elementToNodes chunks e2 = some (look e2)) :
    filterNeighbors d chunks e1 e1n cands =
      some (cands.filter (fun e2 => !(e1 == e2) && decide (d ≤ commonCount e1n (look e2)))) := by
  induction cands with
  | nil => rfl
  | cons e2 rest ih =>
    rw [List.forall_mem_cons] at h
    rw [filterNeighbors, ih h.2, List.filter_cons]
    by_cases he : e1 = e2
    · simp [he]
    · simp [he, h.1 (Ne.symm he)]

theorem insertNat_eq (x : Nat) (l : List Nat) : insertNat x l = insBy (fun x y => !decide (x ≤ y)) x l := by
  induction l with
  | nil => rfl
  | cons y ys ih => simp only [insertNat, insBy, ih, Bool.not_eq_true', decide_eq_false_iff_not, ite_not]

theorem mem_insertNat {x y : Nat} {l : List Nat} : y ∈ insertNat x l ↔ y = x ∨ y ∈ l :=
  insertNat_eq x l ▸ (perm_insBy _ x l).mem_iff.trans List.mem_cons

theorem mem_sortNat {x : Nat} {l : List Nat} : x ∈ sortNat l ↔ x ∈ l := by
  induction l with
  | nil => simp [sortNat]
  | cons z zs ih => simp [sortNat, mem_insertNat, ih]

theorem insertNat_sorted (x : Nat) {l : List Nat} (h : l.Pairwise (· ≤ ·)) :
    (insertNat x l).Pairwise (· ≤ ·) :=
  insertNat_eq x l ▸ pairwise_insBy Nat.le_trans (fun y hy => Nat.le_of_not_le (by simpa using hy))
    (fun y hy => by simpa using hy) h

theorem sortNat_sorted (l : List Nat) : (sortNat l).Pairwise (· ≤ ·) := by
  induction l with
  | nil => simp [sortNat]
  | cons z zs ih => exact insertNat_sorted z ih

theorem mem_dedup {x : Nat} {l : List Nat} : x ∈ dedup l ↔ x ∈ l := by
  fun_induction dedup l <;> simp_all

theorem dedup_sorted {l : List Nat} (h : l.Pairwise (· ≤ ·)) : (dedup l).Pairwise (· < ·) := by
  fun_induction dedup l with
  | case1 => simp
  | case2 => simp
  | case3 a rest ih => exact ih h.of_cons
  | case4 a b rest hab ih =>
    rw [List.pairwise_cons] at h ⊢
    refine ⟨fun z hz => ?_, ih h.2⟩
    -- `a ≤ b ≤ z` and `a ≠ b`
    have h1 := h.1 b List.mem_cons_self
    rcases List.mem_cons.1 (mem_dedup.1 hz) with rfl | hz
    · omega
    · have := (List.pairwise_cons.1 h.2).1 z hz
      omega

theorem mapOpt_eq_some_map {α β} {f : α → Option β} {g : α → β} {l : List α}
    (h : ∀ x ∈ l, f x = some (g x)) : mapOpt f l = some (l.map g) := by
  induction l with
  | nil => rfl
  | cons x xs ih =>
    rw [List.forall_mem_cons] at h
    simp [mapOpt, h.1, ih h.2]

theorem allWrites_cons (f : Nat → List Nat → Option (List Nat)) (c : Chunk) (cs : List Chunk) :
    allWrites f (c :: cs) =
      match chunkWrites f c with
      | none => none
      | some w => (allWrites f cs).map (w ++ ·) := by
  simp only [allWrites, mapOpt]
  cases chunkWrites f c with
  | none => rfl
  | some w => cases mapOpt (chunkWrites f) cs <;> simp

theorem allWrites_chunksFrom (f : Nat → List Nat → Option (List Nat)) (g : Nat → List Nat)
    (bs : List Block) (s : Nat)
    (h : ∀ i ns, (allElems bs)[i]? = some ns → f (s + i) ns = some (g (s + i))) :
    allWrites f (chunksFrom s bs) =
      some ((List.range (allElems bs).length).map (fun i => (s + i, g (s + i)))) := by
  induction bs generalizing s with
  | nil => rfl
  | cons b bs ih =>
    have hc : chunkWrites f ⟨s, b.ty.npe, b.nodes⟩ =
        some ((List.range (b.nodes.length / b.ty.npe)).map (fun i => (s + i, g (s + i)))) := by
      apply mapOpt_eq_some_map
      intro i hi
      rw [h i _ (getElem?_allElems_cons_left bs (List.mem_range.1 hi))]
      rfl
    have ih' := ih (s + b.nodes.length / b.ty.npe) (fun i ns hi => by
      rw [Nat.add_assoc]
      exact h _ ns (by rwa [getElem?_allElems_cons_right]))
    simp only [chunksFrom, allWrites_cons, hc, ih', Option.map_some, allElems_cons,
      List.length_append, chunksExact_length, List.range_add, List.map_append, List.map_map,
      Function.comp_def, Nat.add_assoc]

theorem applyWrites_cons (init : List (List Nat)) (w : Nat × List Nat) (ws : List (Nat × List Nat)) :
    applyWrites init (w :: ws) = applyWrites (init.set w.1 w.2) ws := rfl

theorem applyWrites_length (init : List (List Nat)) (ws : List (Nat × List Nat)) :
    (applyWrites init ws).length = init.length := by
  induction ws generalizing init with
  | nil => rfl
  | cons w ws ih => rw [applyWrites_cons, ih, List.length_set]

theorem getElem?_applyWrites_of_not_mem (ws : List (Nat × List Nat)) (init : List (List Nat))
    (i : Nat) (h : i ∉ ws.map Prod.fst) : (applyWrites init ws)[i]? = init[i]? := by
  induction ws generalizing init with
  | nil => rfl
  | cons w ws ih =>
    rw [List.map_cons, List.mem_cons, not_or] at h
    rw [applyWrites_cons, ih _ h.2, List.getElem?_set_ne (Ne.symm h.1)]

theorem getElem?_applyWrites_of_mem (ws : List (Nat × List Nat)) (init : List (List Nat))
    (hnd : (ws.map Prod.fst).Nodup) (i : Nat) (v : List Nat) (hm : (i, v) ∈ ws) :
    (applyWrites init ws)[i]? = (init.set i v)[i]? := by
  induction ws generalizing init with
  | nil => simp at hm
  | cons w ws ih =>
    rw [List.map_cons, List.nodup_cons] at hnd
    rw [applyWrites_cons]
    rcases List.mem_cons.mp hm with rfl | hm
    · exact getElem?_applyWrites_of_not_mem _ _ _ hnd.1
    · rw [ih _ hnd.2 hm]
      simp only [List.getElem?_set, ↓reduceIte, List.length_set]

/-- Schedule independence of the raw-pointer writes: with pairwise distinct
targets every order of the writes gives the same `indice_locks`. -/
theorem applyWrites_perm {ws ws' : List (Nat × List Nat)} (hp : ws.Perm ws')
    (hnd : (ws.map Prod.fst).Nodup) (init : List (List Nat)) :
    applyWrites init ws = applyWrites init ws' := by
  have hnd' : (ws'.map Prod.fst).Nodup := (hp.map _).nodup_iff.1 hnd
  apply List.ext_getElem?
  intro i
  by_cases hi : i ∈ ws.map Prod.fst
  · obtain ⟨⟨_, v⟩, hm, rfl⟩ := List.mem_map.1 hi
    rw [getElem?_applyWrites_of_mem ws init hnd _ v hm,
      getElem?_applyWrites_of_mem ws' init hnd' _ v (hp.mem_iff.1 hm)]
  · rw [getElem?_applyWrites_of_not_mem _ _ _ hi,
      getElem?_applyWrites_of_not_mem _ _ _ (fun h => hi ((hp.map _).mem_iff.2 h))]

theorem applyWrites_of_perm_range {n : Nat} (g : Nat → List Nat) {ws : List (Nat × List Nat)}
    (hp : ws.Perm ((List.range n).map (fun i => (i, g i)))) (init : List (List Nat))
    (hlen : init.length = n) : applyWrites init ws = (List.range n).map g := by
  have hnd : (((List.range n).map (fun i => (i, g i))).map Prod.fst).Nodup := by
    simpa [List.map_map, Function.comp_def] using List.nodup_range
  rw [applyWrites_perm hp ((hp.map _).nodup_iff.2 hnd)]
  apply List.ext_getElem?
  intro i
  by_cases hi : i < n
  · rw [getElem?_applyWrites_of_mem _ init hnd i (g i)
      (List.mem_map.2 ⟨i, List.mem_range.2 hi, rfl⟩),
      List.getElem?_set_self (hlen ▸ hi), List.getElem?_map, List.getElem?_range hi]
    rfl
  · rw [List.getElem?_eq_none (by rw [applyWrites_length]; omega),
      List.getElem?_eq_none (by rw [List.length_map, List.length_range]; omega)]

theorem prefixSums_length (a : Nat) (l : List Nat) : (prefixSums a l).length = l.length + 1 := by
  induction l generalizing a with
  | nil => rfl
  | cons x xs ih => simp [prefixSums, ih]

theorem prefixSums_getD_zero (a : Nat) (l : List Nat) : (prefixSums a l).getD 0 0 = a := by
  cases l <;> rfl

theorem prefixSums_getLastD (a d : Nat) (l : List Nat) :
    (prefixSums a l).getLastD d = a + l.sum := by
  induction l generalizing a d with
  | nil => rfl
  | cons x xs ih => rw [prefixSums, List.getLastD_cons, ih, List.sum_cons, Nat.add_assoc]

theorem slice_prefixSums (rows : List (List Nat)) (pre : List Nat) (i : Nat) (hi : i < rows.length) :
    slice (pre ++ rows.flatten) ((prefixSums pre.length (rows.map List.length)).getD i 0)
      ((prefixSums pre.length (rows.map List.length)).getD (i + 1) 0 -
        (prefixSums pre.length (rows.map List.length)).getD i 0) = rows[i] := by
  induction rows generalizing pre i with
  | nil => simp at hi
  | cons r rows ih =>
    simp only [List.map_cons, prefixSums, List.flatten_cons]
    cases i with
    | zero =>
      simp only [List.getD_cons_zero, List.getD_cons_succ, prefixSums_getD_zero,
        Nat.add_sub_cancel_left, List.getElem_cons_zero, slice]
      rw [List.drop_left, List.take_left]
    | succ i =>
      simp only [List.getD_cons_succ, List.getElem_cons_succ]
      have := ih (pre ++ r) i (Nat.lt_of_succ_lt_succ hi)
      simp only [List.length_append, List.append_assoc] at this
      exact this

/-- The raw-pointer row copies tile the buffer: with the prefix sums as start
offsets they produce the concatenation of the rows. -/
theorem copyRows_prefixSums (rows : List (List Nat)) (pre : List Nat) :
    copyRows (pre ++ List.replicate ((rows.map List.length).sum) 0)
      (prefixSums pre.length (rows.map List.length)) rows = pre ++ rows.flatten := by
  induction rows generalizing pre with
  | nil => simp [prefixSums, copyRows]
  | cons r rows ih =>
    simp only [List.map_cons, List.sum_cons, prefixSums, copyRows, List.flatten_cons]
    have hc : copyRow (pre ++ List.replicate (r.length + (rows.map List.length).sum) 0) pre.length r
        = (pre ++ r) ++ List.replicate ((rows.map List.length).sum) 0 := by
      simp only [copyRow, List.take_left, List.drop_append, List.drop_replicate,
        Nat.add_sub_cancel_left, List.append_assoc]
      rw [List.drop_eq_nil_of_le (Nat.le_add_right _ _)]
      rfl
    rw [hc]
    have := ih (pre ++ r)
    simp only [List.length_append, List.append_assoc] at this ⊢
    exact this

theorem assemble_eq (rows : List (List Nat)) :
    assemble rows =
      { size := rows.length, indptr := prefixSums 0 (rows.map List.length),
        indices := rows.flatten, dataLen := rows.flatten.length } := by
  have h := copyRows_prefixSums rows []
  simp only [List.length_nil, List.nil_append] at h
  simp only [assemble, prefixSums_getLastD, Nat.zero_add, h, prefixSums_length, List.length_map,
    Nat.add_sub_cancel]

theorem row_assemble (rows : List (List Nat)) (i : Nat) (hi : i < rows.length) :
    (assemble rows).row i = rows[i] := by
  rw [assemble_eq]
  exact slice_prefixSums rows [] i hi

theorem size_assemble (rows : List (List Nat)) : (assemble rows).size = rows.length := by
  rw [assemble_eq]

/-- Nodes of element `e` (`[]` beyond the end). -/
def nodesOf (els : List (List Nat)) (e : Nat) : List Nat := (els[e]?).getD []

def rowSpec (d : Nat) (els t : List (List Nat)) (e1 : Nat) : List Nat :=
  dedup (sortNat (((nodesOf els e1).flatMap (rowT t)).filter
    (fun e2 => !(e1 == e2) && decide (d ≤ commonCount (nodesOf els e1) (nodesOf els e2)))))

theorem neighbors_spec (d : Nat) (bs : List Block) (hal : Aligned bs) (t : List (List Nat))
    (ht : IsIndex (allElems bs) t)
    (hv : ∀ ns ∈ allElems bs, ∀ x ∈ ns, x < t.length)
    (e1 : Nat) (e1n : List Nat) (he : (allElems bs)[e1]? = some e1n) :
    neighbors d (chunksFrom 0 bs) t e1 e1n = some (rowSpec d (allElems bs) t e1) := by
  have hn : nodesOf (allElems bs) e1 = e1n := by simp [nodesOf, he]
  unfold neighbors
  rw [candidates_spec t e1n (hv e1n (List.mem_of_getElem? he))]
  simp only
  rw [filterNeighbors_spec d _ e1 e1n (nodesOf (allElems bs)), rowSpec, hn]
  -- every candidate comes from the index, so it is an element number
  intro e2 h2 _
  obtain ⟨k, _, hk⟩ := List.mem_flatMap.mp h2
  obtain ⟨ns, hns, _⟩ := (ht k e2).mp hk
  have := elementToNodes_chunksFrom bs hal 0 e2
  rw [Nat.zero_add] at this
  rw [this, nodesOf, hns]
  rfl

theorem rowsWith_spec (sched : List (Nat × List Nat) → List (Nat × List Nat))
    (hs : ∀ ws, (sched ws).Perm ws)
    (d : Nat) (bs : List Block) (hal : Aligned bs) (t : List (List Nat))
    (ht : IsIndex (allElems bs) t)
    (hv : ∀ ns ∈ allElems bs, ∀ x ∈ ns, x < t.length) :
    rowsWith sched d (chunksFrom 0 bs) t =
      some ((List.range (allElems bs).length).map (rowSpec d (allElems bs) t)) := by
  have hw := allWrites_chunksFrom (neighbors d (chunksFrom 0 bs) t) (rowSpec d (allElems bs) t) bs 0
    (fun i ns hi => by
      rw [Nat.zero_add]
      exact neighbors_spec d bs hal t ht hv i ns hi)
  simp only [Nat.zero_add] at hw
  simp only [rowsWith, hw, Option.map_some, elCount_chunksFrom]
  rw [applyWrites_of_perm_range _ (hs _) _ List.length_replicate]

theorem Block.elements_of_wf (b : Block) (h : b.nodes.length = b.refs * b.ty.npe) :
    b.elements = chunksExact b.ty.npe b.nodes := by
  apply List.take_of_length_le
  rw [chunksExact_length, h, Nat.mul_div_cancel _ b.ty.npe_pos]
  exact Nat.le_refl _

theorem elements_eq_allElems (d : Nat) (m : Mesh) (hwf : m.WF) :
    elements d m = allElems (keptBlocks d m) := by
  rw [elements, allElems, List.flatMap_def, List.flatMap_def]
  congr 1
  exact List.map_congr_left fun b hb => b.elements_of_wf (hwf b (List.mem_filter.mp hb).1)

theorem aligned_of_wf (d : Nat) (m : Mesh) (hwf : m.WF) : Aligned (keptBlocks d m) := by
  intro b hb
  rw [hwf b (List.mem_filter.mp hb).1]
  exact Nat.mul_mod_left _ _

/-- Every node of a cell names a node of the mesh. -/
def CellsValid (m : Mesh) (d : Nat) : Prop := ∀ ns ∈ elements d m, ∀ x ∈ ns, x < m.nodeCount

theorem runWith_eq (sched : List (Nat × List Nat) → List (Nat × List Nat))
    (hs : ∀ ws, (sched ws).Perm ws) (m : Mesh) (d : Nat) (hwf : m.WF) (hd : topDim m = some d)
    {t : List (List Nat)} (ht : nodeToElements m.nodeCount (elements d m) = some t) :
    runWith sched m =
      .ok (assemble ((List.range (elements d m).length).map (rowSpec d (elements d m) t))) := by
  obtain ⟨hv, hlen, hidx⟩ := nodeToElements_ok ht
  have hel := elements_eq_allElems d m hwf
  have hrows := rowsWith_spec sched hs d (keptBlocks d m) (aligned_of_wf d m hwf) t
    (hel ▸ hidx) (by rw [← hel, hlen]; exact hv)
  rw [hel] at ht
  simp only [runWith, hd, hel, ht, hrows]

theorem index_of_runWith_ok {sched : List (Nat × List Nat) → List (Nat × List Nat)}
    {m : Mesh} {d : Nat} {g : Csr} (hd : topDim m = some d) (h : runWith sched m = .ok g) :
    ∃ t, nodeToElements m.nodeCount (elements d m) = some t := by
  simp only [runWith, hd] at h
  split at h
  · cases h
  · next t ht => exact ⟨t, ht⟩

theorem runWith_ok_valid (sched : List (Nat × List Nat) → List (Nat × List Nat))
    (m : Mesh) (d : Nat) (g : Csr) (hd : topDim m = some d) (h : runWith sched m = .ok g) :
    CellsValid m d := by
  obtain ⟨t, ht⟩ := index_of_runWith_ok hd h
  exact (nodeToElements_ok ht).1

theorem commonCount_pos {a b : List Nat} : 0 < commonCount a b ↔ ∃ x ∈ a, x ∈ b := by
  simp [commonCount, List.length_pos_iff_exists_mem]

/-- The conjunct `0 < commonCount …` is the candidate filter: only elements that share a node
with `e1` are ever compared with it. -/
theorem mem_rowSpec_iff {d : Nat} {els t : List (List Nat)} (ht : IsIndex els t) {e1 e2 : Nat} :
    e2 ∈ rowSpec d els t e1 ↔ e1 ≠ e2 ∧ e2 < els.length ∧
      0 < commonCount (nodesOf els e1) (nodesOf els e2) ∧
      d ≤ commonCount (nodesOf els e1) (nodesOf els e2) := by
  have hc : e2 ∈ (nodesOf els e1).flatMap (rowT t) ↔
      e2 < els.length ∧ ∃ x ∈ nodesOf els e1, x ∈ nodesOf els e2 := by
    simp only [List.mem_flatMap, ht _ e2]
    constructor
    · rintro ⟨x, hx, ns, hns, hxn⟩
      exact ⟨(List.getElem?_eq_some_iff.1 hns).1, x, hx, by rwa [nodesOf, hns]⟩
    · rintro ⟨hlt, x, hx, hx2⟩
      exact ⟨x, hx, els[e2], List.getElem?_eq_getElem hlt,
        by rwa [nodesOf, List.getElem?_eq_getElem hlt] at hx2⟩
  simp only [rowSpec, mem_dedup, mem_sortNat, List.mem_filter, hc, commonCount_pos,
    Bool.and_eq_true, Bool.not_eq_true', beq_eq_false_iff_ne, decide_eq_true_eq, and_assoc]
  exact ⟨fun ⟨a, b, c, e⟩ => ⟨c, a, b, e⟩, fun ⟨c, a, b, e⟩ => ⟨a, b, c, e⟩⟩

theorem mem_rowSpec_imp {d : Nat} {els t : List (List Nat)} (ht : IsIndex els t) {e1 e2 : Nat}
    (h : e2 ∈ rowSpec d els t e1) :
    e1 ≠ e2 ∧ e2 < els.length ∧ d ≤ commonCount (nodesOf els e1) (nodesOf els e2) :=
  let ⟨hne, hlt, _, hcc⟩ := (mem_rowSpec_iff ht).1 h
  ⟨hne, hlt, hcc⟩

/-- For `d ≥ 1` the inverted index loses no neighbour: `d` shared positions imply a shared node. -/
theorem mem_rowSpec {d : Nat} (hd1 : 1 ≤ d) {els t : List (List Nat)} (ht : IsIndex els t)
    {e1 e2 : Nat} :
    e2 ∈ rowSpec d els t e1 ↔
      e1 ≠ e2 ∧ e2 < els.length ∧ d ≤ commonCount (nodesOf els e1) (nodesOf els e2) :=
  ⟨mem_rowSpec_imp ht, fun ⟨hne, hlt, hcc⟩ =>
    (mem_rowSpec_iff ht).2 ⟨hne, hlt, Nat.lt_of_lt_of_le hd1 hcc, hcc⟩⟩

theorem rowSpec_sorted (d : Nat) (els t : List (List Nat)) (e1 : Nat) :
    (rowSpec d els t e1).Pairwise (· < ·) :=
  dedup_sorted (sortNat_sorted _)

theorem commonCount_comm {a b : List Nat} (ha : a.Nodup) (hb : b.Nodup) :
    commonCount a b = commonCount b a := by
  unfold commonCount
  apply List.Perm.length_eq
  rw [List.perm_ext_iff_of_nodup (ha.filter _) (hb.filter _)]
  intro x
  simp only [List.mem_filter, List.contains_eq_mem, decide_eq_true_eq]
  exact And.comm

theorem keptBlocks_eq (d : Nat) (m : Mesh) :
    keptBlocks d m = m.blocks.filter (fun b => b.ty.dim == d && b.ty != .edge) := by
  unfold keptBlocks
  congr 1
  funext b
  simp [ignored, bne]

theorem length_elements (d : Nat) (m : Mesh) (hwf : m.WF) :
    (elements d m).length =
      ((m.blocks.filter (fun b => b.ty.dim == d && b.ty != .edge)).map Block.count).sum := by
  rw [elements_eq_allElems d m hwf, length_allElems, keptBlocks_eq]

theorem usedElementCount_eq (m : Mesh) (d : Nat) (hwf : m.WF) (hd : topDim m = some d)
    (h1 : d ≠ 1) : usedElementCount m = (elements d m).length := by
  -- only edges have dimension 1, so the test `ty != .edge` is idle
  have : ∀ b : Block, (b.ty.dim == d && b.ty != .edge) = (b.ty.dim == d) := by
    intro b
    by_cases he : b.ty = .edge
    · simp [he, ElType.dim, Ne.symm h1]
    · simp [he]
  simp [usedElementCount, hd, length_elements d m hwf, this]

/-- Nodes of cell `i`: the `i`-th element of the highest dimension `d`, edges
excluded, in block order. -/
def cell (m : Mesh) (d i : Nat) : List Nat := nodesOf (elements d m) i

/-- Number of cells. -/
def cellCount (m : Mesh) (d : Nat) : Nat := (elements d m).length

theorem rows_of_run (m : Mesh) (d : Nat) (g : Csr) (hwf : m.WF) (hd : topDim m = some d)
    (h : run m = .ok g) :
    ∃ t, IsIndex (elements d m) t ∧ g.size = cellCount m d ∧
      ∀ i, i < g.size → g.row i = rowSpec d (elements d m) t i := by
  obtain ⟨t, ht⟩ := index_of_runWith_ok hd h
  rw [run, runWith_eq id (fun _ => .refl _) m d hwf hd ht] at h
  obtain rfl := Outcome.ok.inj h
  refine ⟨t, (nodeToElements_ok ht).2.2, ?_, fun i hi => ?_⟩
  · rw [size_assemble, List.length_map, List.length_range, cellCount]
  · rw [size_assemble] at hi
    rw [row_assemble _ i hi, List.getElem_map, List.getElem_range]

end Coupe.Dual
