import Mathlib.Tactic.Linarith

/-!
# The arithmetic step of the MultiJagged balance proof

A child with `a` leaves received the weight `Wj` out of its parent's `Wp` (the parent has
`L` leaves): `|Wj·L − Wp·a| < wmax·L` (one level).  Below the child a leaf of weight `Wl`
satisfies `|a·Wl − Wj| ≤ a·d·wmax` (induction).  Then `|L·Wl − Wp| ≤ L·(d+1)·wmax`.
-/

namespace Coupe.MultiJagged

theorem balance_step_int (L a d D Wl Wj Wp wmax : Int) (ha : 1 ≤ a) (hL : 0 ≤ L) (hdD : d + 1 ≤ D)
    (hw : 0 ≤ wmax)
    (h1 : Wj * L < Wp * a + wmax * L) (h2 : Wp * a < Wj * L + wmax * L)
    (h3 : -(a * d * wmax) ≤ a * Wl - Wj) (h4 : a * Wl - Wj ≤ a * d * wmax) :
    -(L * D * wmax) ≤ L * Wl - Wp ∧ L * Wl - Wp ≤ L * D * wmax := by
  have hLw : 0 ≤ L * wmax := Int.mul_nonneg hL hw
  have ha0 : 0 < a := ha
  -- this level adds `L * wmax ≤ a * (L * wmax)` to the `L * (a * d * wmax)` of the levels below
  have e1 : 1 * (L * wmax) ≤ a * (L * wmax) := Int.mul_le_mul_of_nonneg_right ha hLw
  have e2 : a * (L * wmax * (d + 1)) ≤ a * (L * wmax * D) :=
    Int.mul_le_mul_of_nonneg_left (Int.mul_le_mul_of_nonneg_left hdD hLw) (Int.le_of_lt ha0)
  have u1 : L * (a * Wl - Wj) ≤ L * (a * d * wmax) := Int.mul_le_mul_of_nonneg_left h4 hL
  have u2 : L * (-(a * d * wmax)) ≤ L * (a * Wl - Wj) := Int.mul_le_mul_of_nonneg_left h3 hL
  -- both bounds are shown multiplied by `a`, where they are linear in the products above
  constructor
  · exact Int.le_of_mul_le_mul_left (a := a) (by linarith only [e1, e2, u2, h2]) ha0
  · exact Int.le_of_mul_le_mul_left (a := a) (by linarith only [e1, e2, u1, h1]) ha0

/-- The step as the recursion uses it: the one-level bound is a fact about natural numbers. -/
theorem balance_step (L a d D Wl Wj Wp wmax : Nat) (ha : 1 ≤ a) (hdD : d + 1 ≤ D)
    (h1 : Wj * L < Wp * a + wmax * L) (h2 : Wp * a < Wj * L + wmax * L)
    (h3 : -((a : Int) * d * wmax) ≤ (a : Int) * Wl - Wj)
    (h4 : (a : Int) * Wl - Wj ≤ (a : Int) * d * wmax) :
    -((L : Int) * D * wmax) ≤ (L : Int) * Wl - Wp ∧ (L : Int) * Wl - Wp ≤ (L : Int) * D * wmax :=
  balance_step_int L a d D Wl Wj Wp wmax (Int.ofNat_le.2 ha) (Int.natCast_nonneg L) (Int.ofNat_le.2 hdD)
    (Int.natCast_nonneg wmax)
    (by simpa only [Int.natCast_mul, Int.natCast_add] using Int.ofNat_lt.2 h1)
    (by simpa only [Int.natCast_mul, Int.natCast_add] using Int.ofNat_lt.2 h2) h3 h4

end Coupe.MultiJagged
