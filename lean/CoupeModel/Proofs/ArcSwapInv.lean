import CoupeModel.Proofs.ArcSwapLock

/-!
# ArcSwap: reachable states and the structural invariant

`Reach c p₀ s`: `s` is reachable from the initial partition `p₀` by any interleaving of
task steps and by the pass transitions.  `Inv1`: ids valid, every local state
well-formed, the lock-protocol invariant.  Consequence: `nbr_stable_reach`.
-/

namespace Coupe.ArcSwap

structure CfgOk (c : Cfg) (p₀ : List Nat) : Prop where
  glen : c.g.length = p₀.length
  parts : ∀ p ∈ p₀, p < c.partCount
  pc2 : 2 ≤ c.partCount
  inRange : InRange c.g
  sym : SymAdj c.g

/-- Reachable states: any interleaving of task steps; a pass ends when every task is done
and the next one starts if the pass had a non-zero gain. -/
inductive Reach (c : Cfg) (p₀ : List Nat) : State → Prop
  | init : Reach c p₀ (beginPass c (initState c p₀))
  | step {s s' : State} {tid : Nat} {ev : Event} : Reach c p₀ s → step c s tid = some (s', ev) → Reach c p₀ s'
  | pass {s : State} : Reach c p₀ s → allDone s = true → (endPass c s).2 = true →
      Reach c p₀ (beginPass c (endPass c s).1)

theorem step_spec {c : Cfg} {s s' : State} {tid : Nat} {ev : Event} (h : step c s tid = some (s', ev)) :
    ∃ t t', s.tasks[tid]? = some t ∧ (TStep c s.tmax t t.pc t' ev ∧ ev.Reads s.parts s.locks) ∧
      s' = { s with parts := ev.applyParts s.parts, locks := ev.applyLocks s.locks,
                    tasks := s.tasks.set tid t' } := by
  unfold step at h
  split at h
  · cases h
  · next t ht =>
    split at h
    · cases h
    · next t' ev' hst =>
      cases h
      exact ⟨t, t', ht, TStep.of_stepTask hst, rfl⟩

theorem tasks_set_get {l : List Task} {tid : Nat} {t : Task} (t' : Task) (h : l[tid]? = some t) (i : Nat) :
    (l.set tid t')[i]? = if i = tid then some t' else l[i]? := by
  rw [List.getElem?_set, if_pos (List.getElem?_eq_some_iff.1 h).1]
  by_cases hi : i = tid
  · rw [if_pos hi, if_pos hi.symm]
  · rw [if_neg hi, if_neg (Ne.symm hi)]

def lsOf (s : State) (i : Nat) : Option LS := (s.tasks[i]?).map (fun t => t.pc.ls)

/-- Task `i` holds `v` validated: CAS succeeded, every neighbour lock was read as free,
the lock is not yet released. -/
def validatedHolder (s : State) (i v : Nat) : Prop := ∃ t, s.tasks[i]? = some t ∧ t.pc.ls = .valid v

theorem lsOf_get {s : State} {i : Nat} {t : Task} (h : s.tasks[i]? = some t) : lsOf s i = some t.pc.ls := by
  rw [lsOf, h]; rfl

theorem lsOf_eq_some {s : State} {i : Nat} {l : LS} (h : lsOf s i = some l) :
    ∃ t, s.tasks[i]? = some t ∧ t.pc.ls = l :=
  Option.map_eq_some_iff.1 h

structure Inv1 (c : Cfg) (s : State) : Prop where
  plen : s.parts.length = c.g.length
  pval : ∀ p ∈ s.parts, p < c.partCount
  tok : ∀ (i : Nat) (t : Task), s.tasks[i]? = some t → TaskOk c c.g.length t
  lock : LockInv c.g s.locks (lsOf s)

theorem mkTasks_get {c : Cfg} {n : Nat} {pw : List Int} {i : Nat} {t : Task}
    (h : (mkTasks c n pw)[i]? = some t) :
    t = { lo := i * c.ipt, hi := min n ((i + 1) * c.ipt), scan := i * c.ipt, pw := pw } := by
  unfold mkTasks at h
  rw [List.getElem?_map] at h
  rcases Nat.lt_or_ge i c.threadCount with h1 | h1
  · rw [List.getElem?_range h1] at h
    simp only [Option.map_some, Option.some.injEq] at h
    exact h.symm
  · rw [List.getElem?_eq_none (by simpa using h1)] at h
    simp at h

theorem allDone_spec {s : State} (h : allDone s = true) {i : Nat} {t : Task} (ht : s.tasks[i]? = some t) :
    t.pc = .done := by
  unfold allDone at h
  rw [List.all_eq_true] at h
  have := h t (List.mem_of_getElem? ht)
  simpa using this

theorem lockInv_fresh {c : Cfg} {locks : List Bool} {L : Nat → Option LS} (hlen : locks.length = c.g.length)
    (hfree : ∀ v, locks.getD v false = false) (hL : ∀ i l, L i = some l → l = .free) :
    LockInv c.g locks L := by
  refine ⟨hlen, ?_, ?_, ?_, ?_⟩
  · intro i l hi; rw [hL i l hi]; trivial
  · intro v; rw [hfree v]
    simp only [Bool.false_eq_true, false_iff, not_exists, not_and]
    intro i l hi hh; rw [hL i l hi] at hh; cases hh
  · intro i j li lj v hi _ hh; rw [hL i li hi] at hh; cases hh
  · intro i j li lj v u _ hi _ hh; rw [hL i li hi] at hh; cases hh

theorem inv1_beginPass {c : Cfg} {s : State} (hplen : s.parts.length = c.g.length)
    (hpval : ∀ p ∈ s.parts, p < c.partCount) (hlen : s.locks.length = c.g.length)
    (hfree : ∀ v, s.locks.getD v false = false) : Inv1 c (beginPass c s) := by
  refine ⟨hplen, hpval, ?_, ?_⟩
  · intro i t ht
    have := mkTasks_get ht
    subst this
    exact ⟨⟨nofun, hplen ▸ Nat.min_le_left _ _⟩, trivial⟩
  · refine lockInv_fresh hlen hfree ?_
    intro i l hi
    obtain ⟨t, ht, rfl⟩ := lsOf_eq_some hi
    rw [mkTasks_get ht]
    rfl

theorem inv1_reach {c : Cfg} {p₀ : List Nat} (hc : CfgOk c p₀) {s : State} (h : Reach c p₀ s) : Inv1 c s := by
  induction h with
  | init =>
    refine inv1_beginPass hc.glen.symm hc.parts (by simp [initState, hc.glen]) ?_
    intro v
    simp only [initState, List.getD_eq_getElem?_getD, List.getElem?_map]
    cases p₀[v]? <;> rfl
  | @step s s' tid ev _ hstep ih =>
    obtain ⟨t, t', ht, hst, rfl⟩ := step_spec hstep
    have htok := ih.tok tid t ht
    refine ⟨?_, ?_, ?_, ?_⟩
    · cases ev <;> simp [Event.applyParts, ih.plen]
    · intro p hp
      cases ev with
      | partStore v q =>
        obtain ⟨ip, gain, hpc, -⟩ := hst.1.store_inv
        have := htok.2
        rw [hpc] at this
        simp only [Event.applyParts] at hp
        rcases List.mem_or_eq_of_mem_set hp with hp | rfl
        · exact ih.pval p hp
        · exact this.2.1
      | _ => exact ih.pval p hp
    · intro i ti hi
      simp only at hi
      rw [tasks_set_get t' ht] at hi
      split_ifs at hi with h1
      · cases hi; exact hst.1.ok hc.inRange hc.pc2 htok.1 htok.2
      · exact ih.tok i ti hi
    · refine lockInv_step hc.sym ih.lock (lsOf_get ht) (hst.1.lstep hc.pc2 hst.2 htok.2) ?_
      intro i
      simp only [lsOf]
      rw [tasks_set_get t' ht]
      split_ifs <;> rfl
  | @pass s _ hdone _ ih =>
    refine inv1_beginPass ih.plen ih.pval ih.lock.len ?_
    intro v
    simp only [endPass]
    cases hv : s.locks.getD v false with
    | false => rfl
    | true =>
      exfalso
      obtain ⟨i, l, hi, hh⟩ := (ih.lock.held v).1 hv
      obtain ⟨t, ht, rfl⟩ := lsOf_eq_some hi
      rw [allDone_spec hdone ht] at hh
      cases hh

theorem nbr_stable_reach {c : Cfg} {p₀ : List Nat} (hc : CfgOk c p₀) {s s' : State} (h : Reach c p₀ s)
    {tid : Nat} {ev : Event} (hstep : step c s tid = some (s', ev))
    {i v : Nat} (hi : validatedHolder s i v) (hne : i ≠ tid) :
    s'.parts.getD v 0 = s.parts.getD v 0 ∧ ∀ u, Adj c.g v u → s'.parts.getD u 0 = s.parts.getD u 0 := by
  obtain ⟨t, t', ht, hst, rfl⟩ := step_spec hstep
  have hinv := inv1_reach hc h
  cases ev with
  | partStore x q =>
    obtain ⟨ip, gain, hpc, -⟩ := hst.1.store_inv
    have hval : t.pc.ls = .valid x := by rw [hpc]; rfl
    obtain ⟨ti, hti, hli⟩ := hi
    simp only [Event.applyParts]
    constructor
    · refine getD_set_ne _ _ _ _ _ ?_
      intro hx
      subst hx
      exact hne (hinv.lock.uniq i tid _ _ x (lsOf_get hti) (lsOf_get ht) (hli ▸ rfl) (hval ▸ rfl))
    · intro u hadj
      refine getD_set_ne _ _ _ _ _ ?_
      intro hx
      subst hx
      exact hinv.lock.excl hne (hli ▸ lsOf_get hti) (hval ▸ lsOf_get ht) hadj
  | _ => exact ⟨rfl, fun _ _ => rfl⟩

end Coupe.ArcSwap
