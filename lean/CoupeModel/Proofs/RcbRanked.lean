import CoupeModel.Model.Rcb
import CoupeModel.Proofs.Rcb
import CoupeModel.Proofs.RcbTree

/-!
# Termination of the cut search for every *ranked* coordinate type (C03)

The argument is made for any coordinate type whose values (in a set `S`) can be ranked by
integers so that the target `Coord.mid min max` never leaves the interval it was computed
from: `RankedCoord`; `split_terminates_int` (Props/C03.lean) is the exact-integer instance.
The measure is `rank max − rank min`; a round that does not shrink it recomputes the SAME
target, so the fold returns the same `count_left` and the `count_left == prev_count_left`
exits fire.

`Int` is an instance (`intRanked`, proved).  **Nothing is proved here about `f32`: what follows is
IEEE-754 reasoning and stays in the trusted base.**  `rank` = the position in the ordered list of
finite floats (`-0.0` and `0.0` share a position); there are finitely many, so
`rank max − rank min < 2^32`, and `lt_rank` is the order of non-NaN floats.

For the target `(min + max) / 2.0` (the code before /repo 2a9cff7, the default of `Coord.mid`) take
`S` = the finite values with `|x| ≤ f32::MAX / 2`, so that `min + max` does not overflow.
* `mid_mem`, `mid_between`: round-to-nearest is monotone, `a + a` and `b + b` are exact, and
  halving is monotone and exact on them, so `a ≤ (a + b) / 2.0 ≤ b` for `a ≤ b` in `S`
  (gradual underflow included);
* `mid_fix_lo`, `mid_fix_hi`: if the target has the rank of an end point it IS that end
  point up to the sign of zero, and adding `±0.0` to a non-zero value, or two zeros, gives
  the same target again.

For the target the code computes now, `min / 2.0 + max / 2.0` (`Coord.mid` of the driver's `Float32`
instance), that `S` does NOT do: halving an odd multiple of the smallest subnormal `d` rounds to even
(`d / 2.0 = 0`, `3d / 2.0 = 2d`), so `mid d d = 0` and `mid 3d 3d = 4d` lie outside their interval and
`mid_between` fails.  The laws hold on `S` = the finite values of ONE sign and magnitude at least
`2^-125`: both halves are exact, their sum lies between `a` and `b`, rounding is monotone, and a
target with the rank of an end point is that end point.  A box that reaches zero or spans it is not
covered.
-/

namespace Coupe.Rcb

variable {α : Type} [Coord α]

/-- The target of the cut search: `Coord.mid` (`a / 2.0 + b / 2.0` in the code since /repo
2a9cff7, `(a + b) / 2` – floor – on the integer instance). -/
abbrev mid (a b : α) : α := Coord.mid a b

/-- A coordinate type whose values in `S` are ranked by integers, compatibly with `<`, such
that the midpoint of an interval lies (by rank) inside it, and a midpoint that has the
rank of an end point is a fixed point of the next round. -/
structure RankedCoord (α : Type) [Coord α] where
  S : α → Prop
  rank : α → Int
  /-- `rank` is strictly monotone -/
  lt_rank : ∀ a b, S a → S b → Coord.lt a b = true → rank a < rank b
  mid_mem : ∀ a b, S a → S b → S (mid a b)
  mid_between : ∀ a b, S a → S b → rank a ≤ rank b →
    rank a ≤ rank (mid a b) ∧ rank (mid a b) ≤ rank b
  mid_fix_lo : ∀ a b, S a → S b → rank a ≤ rank b → rank (mid a b) = rank a →
    mid (mid a b) b = mid a b
  mid_fix_hi : ∀ a b, S a → S b → rank a ≤ rank b → rank (mid a b) = rank b →
    mid a (mid a b) = mid a b

/-- The integers are ranked by themselves (`/ 2.0` = floor division). -/
def intRanked : RankedCoord Int where
  S := fun _ => True
  rank := id
  lt_rank := fun _ _ _ _ h => of_decide_eq_true h
  mid_mem := fun _ _ _ _ => trivial
  mid_between := fun _ _ _ _ h => int_mid_between h
  -- the rank is the value: a target with the rank of an end point is that end point
  mid_fix_lo := fun _ b _ _ _ h => congrArg (mid · b) h
  mid_fix_hi := fun a _ _ _ _ h => congrArg (mid a ·) h

/-- The width of an interval of ranks as the fuel counts it.  (Stated apart: `omega` is slow in the
contexts below.) -/
theorem width_le {a m b : Int} (h1 : a ≤ m) (h2 : m ≤ b) :
    (m - a).toNat ≤ (b - a).toNat ∧ (b - m).toNat ≤ (b - a).toNat := by omega

theorem width_lt_left {a m b : Int} (h1 : a ≤ m) (h2 : m ≤ b) (hne : m ≠ b) :
    (m - a).toNat + 1 ≤ (b - a).toNat := by omega

theorem width_lt_right {a m b : Int} (h1 : a ≤ m) (h2 : m ≤ b) (hne : m ≠ a) :
    (b - m).toNat + 1 ≤ (b - a).toNat := by omega

/-- `par_rcb_split` terminates on ranked coordinates: fuel `rank max − rank min + 2`. -/
theorem split_terminates_ranked_aux (R : RankedCoord α) {So : α → Prop} (laws : OrderLawsOn So)
    (wt : Int → Int → Bool) (coord : Nat) (sum : Int) (items : List (Item α))
    (hS : ∀ x ∈ items, So (x.key coord)) :
    ∀ (fuel it : Nat) (mn mx : α) (prev : Option Nat) (mv : Bool),
      R.S mn → R.S mx → R.rank mn ≤ R.rank mx → (R.rank mx - R.rank mn).toNat + 2 ≤ fuel →
      split wt coord sum items fuel it mn mx prev mv ≠ .fuel := by
  intro fuel
  induction fuel with
  | zero => intro it mn mx prev mv _ _ _ hf; omega
  | succ fuel ih =>
    intro it mn mx prev mv hmn hmx hle hf h
    -- the next round starts from a narrower interval (by rank), or computes the same target
    have hrec : ∀ (mn' mx' : α) (mv' : Bool), R.S mn' → R.S mx' → R.rank mn' ≤ R.rank mx' →
        ((R.rank mx' - R.rank mn').toNat + 1 ≤ (R.rank mx - R.rank mn).toNat ∨
          mid mn' mx' = mid mn mx) →
        split wt coord sum items fuel (it + 1) mn' mx'
          (some (scan items coord (mid mn mx)).count) mv' ≠ .fuel := by
      intro mn' mx' mv' h1 h2 hle' hcase
      rcases hcase with hc | hc
      · exact ih _ _ _ _ _ h1 h2 hle' (by omega)
      · cases fuel with
        | zero => omega
        | succ f =>
          -- the target repeats, so does the count, and the round returns
          rw [← hc]
          exact fun h => (split_succ_fail laws hS h fun _ e => nomatch e).1 rfl
    have hb := R.mid_between mn mx hmn hmx hle
    have hm := R.mid_mem mn mx hmn hmx
    obtain ⟨_, hr | hr⟩ := split_succ_fail laws hS h fun _ e => nomatch e
    · refine hrec mn (mid mn mx) true hmn hm hb.1 ?_ hr.symm
      by_cases he : R.rank (mid mn mx) = R.rank mx
      · exact .inr (R.mid_fix_hi mn mx hmn hmx hle he)
      · exact .inl (width_lt_left hb.1 hb.2 he)
    · refine hrec (mid mn mx) mx mv hm hmx hb.2 ?_ hr.symm
      by_cases he : R.rank (mid mn mx) = R.rank mn
      · exact .inr (R.mid_fix_lo mn mx hmn hmx hle he)
      · exact .inl (width_lt_right hb.1 hb.2 he)

theorem split_interval_rank (R : RankedCoord α) {wt : Int → Int → Bool} {coord : Nat} {sum : Int}
    {items : List (Item α)} {fuel it : Nat} {mn mx : α} {prev : Option Nat} {mv : Bool}
    {out : SplitOut α} (hmn : R.S mn) (hmx : R.S mx) (hle : R.rank mn ≤ R.rank mx)
    (h : split wt coord sum items fuel it mn mx prev mv = .ok out) :
    R.S out.lastMin ∧ R.S out.lastMax ∧ R.rank mn ≤ R.rank out.lastMin ∧
      R.rank out.lastMin ≤ R.rank out.lastMax ∧ R.rank out.lastMax ≤ R.rank mx := by
  refine (split_ok_inv
    (I := fun a b _ => R.S a ∧ R.S b ∧ R.rank mn ≤ R.rank a ∧ R.rank a ≤ R.rank b ∧
      R.rank b ≤ R.rank mx) ?_ ?_ ⟨hmn, hmx, Int.le_refl _, hle, Int.le_refl _⟩ h).1
  · intro a b _ ⟨ha, hb, h1, h2, h3⟩ _
    obtain ⟨m1, m2⟩ := R.mid_between a b ha hb h2
    exact ⟨ha, R.mid_mem a b ha hb, h1, m1, Int.le_trans m2 h3⟩
  · intro a b _ ⟨ha, hb, h1, h2, h3⟩ _ _
    obtain ⟨m1, m2⟩ := R.mid_between a b ha hb h2
    exact ⟨R.mid_mem a b ha hb, hb, Int.le_trans h1 m1, m2, h3⟩

theorem split_pos_rank (R : RankedCoord α) {wt : Int → Int → Bool} {coord : Nat} {sum : Int}
    {items : List (Item α)} {fuel it : Nat} {mn mx : α} {prev : Option Nat} {mv : Bool}
    {out : SplitOut α} (hmn : R.S mn) (hmx : R.S mx) (hle : R.rank mn ≤ R.rank mx)
    (h : split wt coord sum items fuel it mn mx prev mv = .ok out) :
    R.S out.splitPos ∧ R.rank mn ≤ R.rank out.splitPos ∧ R.rank out.splitPos ≤ R.rank mx := by
  obtain ⟨h1, h2, h3, h4, h5⟩ := split_interval_rank R hmn hmx hle h
  rcases split_lastRound h with ⟨_, _, _, _, _, e⟩ | ⟨_, _, _, _, _, _, e, _⟩
  · rw [e]; exact ⟨h2, Int.le_trans h3 h4, h5⟩
  · rw [e]
    obtain ⟨m1, m2⟩ := R.mid_between _ _ h1 h2 h4
    exact ⟨R.mid_mem _ _ h1 h2, Int.le_trans h3 m1, Int.le_trans m2 h5⟩

/-- The box handed down has `dim` coordinates in `S`, ordered by rank, and narrow enough for
the fuel. -/
def RBox (R : RankedCoord α) (dim fuel : Nat) (lo hi : List α) : Prop :=
  lo.length = dim ∧ hi.length = dim ∧ ∀ c, c < dim →
    R.S (lo.getD c Coord.zero) ∧ R.S (hi.getD c Coord.zero) ∧
    R.rank (lo.getD c Coord.zero) ≤ R.rank (hi.getD c Coord.zero) ∧
    (R.rank (hi.getD c Coord.zero) - R.rank (lo.getD c Coord.zero)).toNat + 2 ≤ fuel

theorem recurse_not_fuel_ranked (R : RankedCoord α) {So : α → Prop} (laws : OrderLawsOn So)
    (wt : Int → Int → Bool) (cfg : Cfg) :
    ∀ (k : Nat) (items : List (Item α)) (iterId coord : Nat) (sum : Int) (lo hi : List α),
      (∀ x ∈ items, ∀ c, So (x.key c)) → coord < cfg.dim → RBox R cfg.dim cfg.fuel lo hi →
      recurse wt cfg k items iterId coord sum lo hi ≠ .fuel := by
  intro k
  induction k with
  | zero => intro items iterId coord sum lo hi _ _ _; cases items <;> nofun
  | succ k ih =>
    intro items iterId coord sum lo hi hS hc hbox
    cases items with
    | nil => nofun
    | cons x xs =>
      obtain ⟨hlo, hhi, hb⟩ := hbox
      obtain ⟨b1, b2, b3, b4⟩ := hb coord hc
      have hc' : (coord + 1) % cfg.dim < cfg.dim := Nat.mod_lt _ (Nat.zero_lt_of_lt hc)
      have hSc : ∀ y ∈ x :: xs, So (y.key coord) := fun y hy => hS y hy coord
      rw [recurse_succ]
      refine Res.bind_ne_fuel
        (split_terminates_ranked_aux R laws wt coord sum _ hSc _ _ _ _ _ _ b1 b2 b3 b4) fun r hr => ?_
      obtain ⟨hml, hmr⟩ := split_sub laws hSc hr
      -- `split_pos` lies between the bounds, so both clipped boxes are no wider
      obtain ⟨p1, p2, p3⟩ := split_pos_rank R b1 b2 b3 hr
      refine Res.bind_ne_fuel (ih _ _ _ _ _ _ (fun y hy => hS y (hml y hy)) hc'
        ⟨hlo, (List.length_set ..).trans hhi, forall_getD_set hhi coord r.splitPos Coord.zero
          (P := fun c b => R.S (lo.getD c Coord.zero) ∧ R.S b ∧
            R.rank (lo.getD c Coord.zero) ≤ R.rank b ∧
            (R.rank b - R.rank (lo.getD c Coord.zero)).toNat + 2 ≤ cfg.fuel)
          hb ⟨b1, p1, p2, Nat.le_trans (Nat.add_le_add_right (width_le p2 p3).1 2) b4⟩⟩) fun tl _ => ?_
      exact Res.bind_ne_fuel (ih _ _ _ _ _ _ (fun y hy => hS y (hmr y hy)) hc'
        ⟨(List.length_set ..).trans hlo, hhi, forall_getD_set hlo coord r.splitPos Coord.zero
          (P := fun c b => R.S b ∧ R.S (hi.getD c Coord.zero) ∧
            R.rank b ≤ R.rank (hi.getD c Coord.zero) ∧
            (R.rank (hi.getD c Coord.zero) - R.rank b).toNat + 2 ≤ cfg.fuel)
          hb ⟨p1, b2, p3, Nat.le_trans (Nat.add_le_add_right (width_le p2 p3).2 2) b4⟩⟩) fun tr _ => nofun

theorem minMaxFold_rank (R : RankedCoord α) (xs : List α) : ∀ (m : α × α) (l : List α),
    (∀ v ∈ xs, v ∈ l) → (∀ v ∈ l, R.S v) → m.1 ∈ l → m.2 ∈ l → R.rank m.1 ≤ R.rank m.2 →
    let r := xs.foldl (fun (m : α × α) v =>
      (if Coord.lt v m.1 then v else m.1, if Coord.lt m.2 v then v else m.2)) m
    r.1 ∈ l ∧ r.2 ∈ l ∧ R.rank r.1 ≤ R.rank r.2 := by
  induction xs with
  | nil => intro m l _ _ h1 h2 h3; exact ⟨h1, h2, h3⟩
  | cons a as ih =>
    intro m l hsub hS h1 h2 h3
    simp only [List.foldl_cons]
    have ha : a ∈ l := hsub a List.mem_cons_self
    refine ih _ l (fun v hv => hsub v (List.mem_cons_of_mem _ hv)) hS ?_ ?_ ?_
    · simp only; split <;> assumption
    · simp only; split <;> assumption
    · simp only
      split
      · next hlt =>
        have := R.lt_rank _ _ (hS _ ha) (hS _ h1) hlt
        split
        · exact Int.le_refl _
        · omega
      · split
        · next hlt =>
          have := R.lt_rank _ _ (hS _ h2) (hS _ ha) hlt
          omega
        · exact h3

theorem minMax_rank (R : RankedCoord α) (l : List α) (hne : l ≠ []) (hS : ∀ v ∈ l, R.S v) :
    ((minMax l).getD (Coord.zero, Coord.zero)).1 ∈ l ∧
      ((minMax l).getD (Coord.zero, Coord.zero)).2 ∈ l ∧
      R.rank ((minMax l).getD (Coord.zero, Coord.zero)).1 ≤
        R.rank ((minMax l).getD (Coord.zero, Coord.zero)).2 := by
  cases l with
  | nil => exact absurd rfl hne
  | cons x xs =>
    simp only [minMax, Option.getD_some]
    exact minMaxFold_rank R xs (x, x) (x :: xs) (fun v hv => List.mem_cons_of_mem _ hv) hS
      List.mem_cons_self List.mem_cons_self (Int.le_refl _)

theorem bbox_rbox (R : RankedCoord α) (dim fuel : Nat) (pts : List (List α)) (hne : pts ≠ [])
    (hS : ∀ p ∈ pts, ∀ c, R.S (p.getD c Coord.zero))
    (hfuel : ∀ p ∈ pts, ∀ q ∈ pts, ∀ c, c < dim →
      (R.rank (q.getD c Coord.zero) - R.rank (p.getD c Coord.zero)).toNat + 2 ≤ fuel) :
    RBox R dim fuel (bbox dim pts).1 (bbox dim pts).2 := by
  refine ⟨(bbox_length dim pts).1, (bbox_length dim pts).2, ?_⟩
  intro c hc
  rw [(bbox_getD dim pts c hc).1, (bbox_getD dim pts c hc).2]
  have hcolS : ∀ v ∈ pts.map (fun p => p.getD c Coord.zero), R.S v := by
    intro v hv
    obtain ⟨p, hp, rfl⟩ := List.mem_map.1 hv
    exact hS p hp c
  obtain ⟨h1, h2, h3⟩ := minMax_rank R (pts.map (fun p => p.getD c Coord.zero))
    (by simpa using hne) hcolS
  refine ⟨hcolS _ h1, hcolS _ h2, h3, ?_⟩
  obtain ⟨p, hp, e1⟩ := List.mem_map.1 h1
  obtain ⟨q, hq, e2⟩ := List.mem_map.1 h2
  rw [← e1, ← e2]
  exact hfuel p hp q hq c hc

end Coupe.Rcb
