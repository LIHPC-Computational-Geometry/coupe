import CoupeModel.Model.Fm
import CoupeModel.Proofs.Basic

/-!
# Lemmas about the FiducciaMattheyses model (`Model/Fm.lean`)

What moving one vertex of a two-way partition does to the gain table (`updNbrs_spec`), to the gains
(`gainOf_flipAt`) and, on a valid graph, to the cut (`edgeCut_flip`); the invariant `Inv` of the
move loop and `OInv` of the pass loop, from which the properties of C07 are read off (`run_inv`);
no abort on a valid graph.

One invariant serves all properties: its cut clause holds when the debug assertion checks the
tracked cut or the graph is valid, its gain clause on a valid graph.
-/

namespace Coupe.Fm

/-- Number of positions at which two id arrays differ ("relabelled vertices"). -/
def ham : List Nat → List Nat → Nat
  | a :: as, b :: bs => (if a = b then 0 else 1) + ham as bs
  | _, _ => 0

/-- Moves kept over all passes: `Σ (moves_i - rewound_i)`. -/
def kept : List Nat → List Nat → Nat
  | m :: ms, r :: rs => (m - r) + kept ms rs
  | _, _ => 0

theorem getD_forall {α} {P : α → Prop} {l : List α} {d : α} (hd : P d) (h : ∀ x ∈ l, P x) (i : Nat) :
    P (l.getD i d) := by
  rw [List.getD_eq_getElem?_getD]
  cases e : l[i]? with
  | none => exact hd
  | some x => exact h x (List.mem_of_getElem? e)

theorem getD_some_lt {gs : List (Option Int)} {u : Nat} {x : Int}
    (h : gs.getD u none = some x) : u < gs.length := by
  apply Classical.byContradiction
  intro hc
  simp [List.getD_eq_getElem?_getD, List.getElem?_eq_none (Nat.le_of_not_lt hc)] at h

theorem set_getD_self (l : List Nat) (v : Nat) : l.set v (l.getD v 0) = l := by
  induction l generalizing v with
  | nil => rfl
  | cons a l ih =>
    cases v with
    | zero => rfl
    | succ v => simp only [List.set_cons_succ, List.getD_cons_succ, ih]

theorem partOf_le_one {p : List Nat} (h : ∀ i ∈ p, i ≤ 1) (v : Nat) : partOf p v ≤ 1 :=
  getD_forall (P := (· ≤ 1)) (Nat.zero_le 1) h v

theorem wOf_nonneg {ws : List Int} (h : ∀ w ∈ ws, 0 ≤ w) (v : Nat) : 0 ≤ wOf ws v :=
  getD_forall (P := (0 ≤ ·)) (Int.le_refl 0) h v

def flipAt (p : List Nat) (v : Nat) : List Nat := p.set v (1 - partOf p v)

theorem length_flipAt (p : List Nat) (v : Nat) : (flipAt p v).length = p.length :=
  List.length_set ..

theorem partOf_flipAt_self {p : List Nat} {v : Nat} (hv : v < p.length) (hle : ∀ i ∈ p, i ≤ 1)
    (u : Nat) : partOf (flipAt p v) v = partOf p u ↔ ¬ partOf p v = partOf p u := by
  have := partOf_le_one hle v
  have := partOf_le_one hle u
  rw [flipAt, partOf, getD_set_self _ _ _ 0 hv]
  omega

theorem partOf_flipAt_ne (p : List Nat) {v u : Nat} (h : u ≠ v) :
    partOf (flipAt p v) u = partOf p u :=
  getD_set_ne p _ _ _ 0 (Ne.symm h)

theorem rowOf_eq (g : Graph) {v : Nat} (hv : v < g.length) : rowOf g v = g[v] := by
  simp [rowOf, List.getD_eq_getElem?_getD, List.getElem?_eq_getElem hv]

/-- The model's `load` is the shared `Coupe.load` (`imbalance.rs: compute_parts_load`). -/
theorem load_eq_basic (ws : List Int) (ids : List Nat) (k : Nat) :
    load ws ids k = Coupe.load ws ids k := by
  induction ws generalizing ids with
  | nil => exact (Coupe.load_nil ids k).symm
  | cons w ws ih =>
    cases ids with
    | nil => rfl
    | cons i ids => rw [Coupe.load_cons, ← ih]; rfl

theorem load_set (ws : List Int) (p : List Nat) (v x k : Nat) (hv : v < p.length) :
    load ws (p.set v x) k =
      load ws p k - (if partOf p v = k then wOf ws v else 0) + (if x = k then wOf ws v else 0) := by
  rw [load_eq_basic, load_eq_basic, Coupe.load_set ws p v x k hv]
  rfl

theorem ham_self (p : List Nat) : ham p p = 0 := by
  induction p with
  | nil => rfl
  | cons a as ih => simp [ham, ih]

theorem ham_set (q p : List Nat) (v x : Nat) : ham q (p.set v x) ≤ ham q p + 1 := by
  induction q generalizing p v with
  | nil => exact Nat.zero_le _
  | cons a as ih =>
    match p, v with
    | [], _ => exact Nat.zero_le _
    | b :: bs, 0 => simp only [List.set_cons_zero, ham]; split <;> omega
    | b :: bs, v + 1 => simp only [List.set_cons_succ, ham]; have := ih bs v; omega

theorem kept_append (ms rs : List Nat) (m r : Nat) (h : ms.length = rs.length) :
    kept (ms ++ [m]) (rs ++ [r]) = kept ms rs + (m - r) := by
  induction ms generalizing rs with
  | nil => match rs, h with
    | [], _ => simp [kept]
  | cons a as ih => match rs, h with
    | b :: bs, h => simp only [List.cons_append, kept, ih bs (Nat.succ.inj h)]; omega

theorem restore_length (ws : List Int) (l : List (Nat × Nat)) (s : List Nat × Int × Int) :
    (restore ws l s).1.length = s.1.length := by
  induction l generalizing s with
  | nil => rfl
  | cons e l ih => simp only [restore, ih, List.length_set]

/-- The weight that returns to part 0 when the move `e = (vertex, initial part)` is undone: the
part weights change by it, with opposite signs, in `applyMove` and in `restore`. -/
def back (ws : List Int) (e : Nat × Nat) : Int := if e.2 = 0 then wOf ws e.1 else - wOf ws e.1

theorem add_back (ws : List Int) (v ip : Nat) (a : Int) :
    (if ip = 0 then a + wOf ws v else a - wOf ws v) = a + back ws (v, ip) := by
  simp only [back]
  split
  · rfl
  · exact Int.sub_eq_add_neg

theorem sub_back (ws : List Int) (v ip : Nat) (a : Int) :
    (if ip = 0 then a - wOf ws v else a + wOf ws v) = a - back ws (v, ip) := by
  simp only [back]
  split
  · rfl
  · exact (Int.sub_neg ..).symm

theorem restore_cons (ws : List Int) (e : Nat × Nat) (l : List (Nat × Nat)) (part : List Nat)
    (a b : Int) :
    restore ws (e :: l) (part, a, b) =
      restore ws l (part.set e.1 e.2, a + back ws e, b - back ws e) := by
  rw [restore, add_back, sub_back]

/-- Undone after the moves in `l`, none of them of `v`, a move of `v` might as well not have been
made: undoing moves of different vertices commutes. -/
theorem restore_move (ws : List Int) (l : List (Nat × Nat)) (part : List Nat) (a b : Int)
    (v x : Nat) (hl : ∀ e ∈ l, e.1 ≠ v) :
    restore ws (l ++ [(v, partOf part v)])
      (part.set v x, a - back ws (v, partOf part v), b + back ws (v, partOf part v)) =
        restore ws l (part, a, b) := by
  induction l generalizing part a b with
  | nil =>
    simp only [List.nil_append, restore_cons, restore, List.set_set, partOf, set_getD_self,
      Int.sub_add_cancel, Int.add_sub_cancel]
  | cons e l ih =>
    have hev := hl e List.mem_cons_self
    have hp : partOf (part.set e.1 e.2) v = partOf part v := getD_set_ne _ _ _ _ _ hev
    rw [List.cons_append, restore_cons, restore_cons,
      ← ih _ _ _ fun e he => hl e (List.mem_cons_of_mem _ he), hp, List.set_comm _ _ hev.symm]
    congr 3 <;> omega

theorem foldl_min_mem {α} (f : α → Int) (t : α) (ts : List α) :
    ∃ x ∈ t :: ts, f x = ts.foldl (fun a x => min a (f x)) (f t) := by
  induction ts generalizing t with
  | nil => exact ⟨t, List.mem_cons_self, rfl⟩
  | cons y ys ih =>
    rw [List.foldl_cons]
    by_cases h : f t ≤ f y
    · rw [Int.min_eq_left h]
      obtain ⟨x, hx, e⟩ := ih t
      exact ⟨x, (List.mem_cons.mp hx).elim (· ▸ List.mem_cons_self)
        fun hx => List.mem_cons_of_mem _ (List.mem_cons_of_mem _ hx), e⟩
    · rw [Int.min_eq_right (by omega)]
      obtain ⟨x, hx, e⟩ := ih y
      exact ⟨x, List.mem_cons_of_mem _ hx, e⟩

section
variable {ws : List Int} {cap : Int} {st : PassSt} {gn : Int} {s : List Nat}

theorem mem_freeAdm {v : Nat} (h : (v, gn) ∈ freeAdm ws cap st) :
    v < st.gains.length ∧ st.gains.getD v none = some gn ∧ ¬ cap < targetW ws st v := by
  simp only [freeAdm, List.mem_filterMap, List.mem_range] at h
  obtain ⟨u, hu, hm⟩ := h
  split at hm
  · next gu hgu =>
    split at hm
    · cases hm
    · next hc => cases hm; exact ⟨hu, hgu, hc⟩
  · cases hm

theorem select_spec (h : select ws cap st = some (gn, s)) :
    s ≠ [] ∧ ∀ v ∈ s, v < st.gains.length ∧ st.gains.getD v none = some gn ∧
      ¬ cap < targetW ws st v := by
  simp only [select] at h
  split at h
  · cases h
  · next e es hfa =>
    split at h
    · cases h
    · next t ts htop =>
      cases h
      constructor
      · obtain ⟨x, hx, hfx⟩ := foldl_min_mem (targetW ws st) t ts
        exact List.ne_nil_of_mem (List.mem_filter.mpr ⟨hx, beq_iff_eq.mpr hfx⟩)
      · intro v hv
        have hv1 := (List.mem_filter.mp hv).1
        rw [← htop] at hv1
        simp only [List.mem_map, List.mem_filter, beq_iff_eq] at hv1
        obtain ⟨⟨v', gv⟩, ⟨hmem, rfl⟩, rfl⟩ := hv1
        exact mem_freeAdm (hfa ▸ hmem)

theorem pick_mem (c : Nat) (s : List Nat) (h : s ≠ []) : pick c s ∈ s :=
  getD_mem 0 (Nat.mod_lt _ (List.length_pos_iff.mpr h))

theorem select_pick (h : select ws cap st = some (gn, s)) (c : Nat) :
    pick c s < st.gains.length ∧ st.gains.getD (pick c s) none = some gn ∧
      ¬ cap < targetW ws st (pick c s) :=
  (select_spec h).2 _ (pick_mem c s (select_spec h).1)

end

/-- Total weight of the entries of `row` whose column is `u` (the matrix entry `A[·,u]`; `sprs`
rows have at most one such entry, the definition does not need that). -/
def wtRow (row : Row) (u : Nat) : Int := (row.map (fun e => if e.1 = u then e.2 else 0)).sum

/-- The inputs the property quantifies over: a CSR matrix as `sprs` guarantees it (square, column
indices in range, rows strictly ascending) that is symmetric, without self-loops, with
non-negative edge weights.  Every clause is decidable. -/
structure Valid (g : Graph) : Prop where
  idx : ∀ v < g.length, ∀ e ∈ rowOf g v, e.1 < g.length
  sorted : ∀ v < g.length, (rowOf g v).Pairwise (fun a b => a.1 < b.1)
  sym : ∀ u < g.length, ∀ v < g.length, wtRow (rowOf g u) v = wtRow (rowOf g v) u
  noloop : ∀ v < g.length, ∀ e ∈ rowOf g v, e.1 ≠ v
  nonneg : ∀ v < g.length, ∀ e ∈ rowOf g v, 0 ≤ e.2

theorem wtRow_cons (e : Nat × Int) (row : Row) (u : Nat) :
    wtRow (e :: row) u = (if e.1 = u then e.2 else 0) + wtRow row u := rfl

theorem wtRow_nonneg (row : Row) (u : Nat) (hnn : ∀ e ∈ row, 0 ≤ e.2) : 0 ≤ wtRow row u := by
  refine sum_map_nonneg _ fun e he => ?_
  have := hnn e he
  split <;> omega

theorem inRange_iff (mpg x : Int) : inRange mpg x = true ↔ -mpg ≤ x ∧ x ≤ mpg := by
  simp [inRange]

/-- Number of free vertices. -/
def countSome (gs : List (Option Int)) : Nat := (gs.filter Option.isSome).length

theorem countSome_set (gs : List (Option Int)) (u : Nat) (x : Int) (y : Option Int)
    (h : gs.getD u none = some x) :
    countSome (gs.set u y) + 1 = countSome gs + if y.isSome then 1 else 0 := by
  induction gs generalizing u with
  | nil => simp at h
  | cons a gs ih =>
    cases u with
    | zero =>
      rw [List.getD_cons_zero] at h
      subst h
      cases y <;> rfl
    | succ u =>
      have := ih u h
      simp only [countSome, List.set_cons_succ, List.filter_cons] at this ⊢
      split
      · simp only [List.length_cons]; omega
      · omega

theorem countSome_map_some (l : List Nat) (f : Nat → Int) :
    countSome (l.map (fun v => some (f v))) = l.length := by
  induction l with
  | nil => rfl
  | cons a l ih => simp only [countSome, List.map_cons, List.filter_cons] at ih ⊢; simp [ih]

/-- The change of the gain of `u`, per unit of edge weight, when a neighbour leaves part `ip`. -/
def dir (part : List Nat) (ip u : Nat) : Int := if partOf part u = ip then 2 else -2

section
variable {mpg : Int} {part : List Nat} {ip : Nat} {gs gs' : List (Option Int)}

theorem updNbrs_cons (u : Nat) (w : Int) (rest : Row) :
    updNbrs mpg part ip ((u, w) :: rest) gs =
      match gs.getD u none with
      | none => updNbrs mpg part ip rest gs
      | some og =>
        if inRange mpg (og + dir part ip u * w) then
          updNbrs mpg part ip rest (gs.set u (some (og + dir part ip u * w)))
        else .error .bucketIndex := by
  have e : ∀ og : Int, (if partOf part u = ip then og + 2 * w else og - 2 * w) =
      og + dir part ip u * w := by intro og; unfold dir; split <;> omega
  rw [updNbrs]
  cases gs.getD u none with
  | none => rfl
  | some og => simp only [e]

theorem updNbrs_spec {row : Row} (h : updNbrs mpg part ip row gs = .ok gs') :
    gs'.length = gs.length ∧ countSome gs' = countSome gs ∧
      ∀ u, gs'.getD u none = (gs.getD u none).map (· + dir part ip u * wtRow row u) := by
  induction row generalizing gs with
  | nil =>
    cases h
    exact ⟨rfl, rfl, fun u => by cases gs'.getD u none <;> simp [wtRow]⟩
  | cons e row ih =>
    obtain ⟨u', w⟩ := e
    rw [updNbrs_cons] at h
    cases hg : gs.getD u' none with
    | none =>
      rw [hg] at h
      obtain ⟨hl, hc, hs⟩ := ih h
      refine ⟨hl, hc, fun u => ?_⟩
      rw [hs u, wtRow_cons]
      by_cases hu : u' = u
      · rw [← hu, hg]; rfl
      · rw [if_neg hu, Int.zero_add]
    | some og =>
      by_cases hin : inRange mpg (og + dir part ip u' * w) = true
      · simp only [hg, hin, if_true] at h
        obtain ⟨hl, hc, hs⟩ := ih h
        have := countSome_set gs u' og (some (og + dir part ip u' * w)) hg
        refine ⟨hl.trans (List.length_set ..), hc.trans (Nat.add_right_cancel this), fun u => ?_⟩
        rw [hs u, wtRow_cons]
        by_cases hu : u' = u
        · rw [← hu, getD_set_self _ _ _ _ (getD_some_lt hg), hg, if_pos rfl]
          simp only [Option.map_some, Int.mul_add, Int.add_assoc]
        · rw [getD_set_ne _ _ _ _ _ hu, if_neg hu, Int.zero_add]
      · simp only [hg, hin] at h
        cases h

theorem inRange_between {mpg x d w r : Int} (hd : d = 2 ∨ d = -2) (hw : 0 ≤ w) (hr : 0 ≤ r)
    (h1 : inRange mpg x = true) (h2 : inRange mpg (x + d * (w + r)) = true) :
    inRange mpg (x + d * w) = true := by
  rw [inRange_iff] at *
  rcases hd with rfl | rfl <;> omega

/-- With non-negative edge weights the gain of a vertex moves one way along the row, so it stays
in range if it is in range before and after. -/
theorem updNbrs_ok (row : Row) (gs : List (Option Int)) (hnn : ∀ e ∈ row, 0 ≤ e.2)
    (H : ∀ u x, gs.getD u none = some x → inRange mpg x = true ∧
      inRange mpg (x + dir part ip u * wtRow row u) = true) :
    ∃ gs', updNbrs mpg part ip row gs = .ok gs' := by
  induction row generalizing gs with
  | nil => exact ⟨gs, rfl⟩
  | cons e row ih =>
    obtain ⟨u', w⟩ := e
    have hnn' : ∀ e ∈ row, 0 ≤ e.2 := fun e he => hnn e (List.mem_cons_of_mem _ he)
    have hne : ∀ u x, u' ≠ u → gs.getD u none = some x → inRange mpg x = true ∧
        inRange mpg (x + dir part ip u * wtRow row u) = true := by
      intro u x hu hx
      have := H u x hx
      rwa [wtRow_cons, if_neg hu, Int.zero_add] at this
    rw [updNbrs_cons]
    cases hg : gs.getD u' none with
    | none => exact ih gs hnn' fun u x hx => hne u x (fun e => by rw [e, hx] at hg; cases hg) hx
    | some og =>
      obtain ⟨r1, r2⟩ := H u' og hg
      rw [wtRow_cons, if_pos rfl] at r2
      have hin := inRange_between (by unfold dir; split <;> simp) (hnn _ List.mem_cons_self)
        (wtRow_nonneg row u' hnn') r1 r2
      simp only [hin, if_true]
      apply ih _ hnn'
      intro u x hx
      by_cases hu : u' = u
      · rw [← hu, getD_set_self _ _ _ _ (getD_some_lt hg)] at hx
        obtain rfl := Option.some.inj hx
        rw [← hu, Int.add_assoc, ← Int.mul_add]
        exact ⟨hin, r2⟩
      · rw [getD_set_ne _ _ _ _ _ hu] at hx
        exact hne u x hu hx

end

theorem sum_map_mul_left {α} (l : List α) (c : Int) (f : α → Int) :
    (l.map (fun x => c * f x)).sum = c * (l.map f).sum := by
  induction l with
  | nil => exact (Int.mul_zero c).symm
  | cons a l ih => simp only [List.map_cons, List.sum_cons, ih, Int.mul_add]

theorem sum_map_sub {α} (l : List α) (f h : α → Int) :
    (l.map (fun x => f x - h x)).sum = (l.map f).sum - (l.map h).sum := by
  induction l with
  | nil => rfl
  | cons a l ih => simp only [List.map_cons, List.sum_cons, ih]; omega

/-- The term of `e` in the gain of `v`. -/
def gterm (p : List Nat) (v : Nat) (e : Nat × Int) : Int :=
  if partOf p e.1 = partOf p v then -e.2 else e.2

theorem gterm_flip {p : List Nat} {v u : Nat} (e : Nat × Int) (hv : v < p.length) (huv : u ≠ v)
    (hle : ∀ i ∈ p, i ≤ 1) :
    gterm (flipAt p v) u e =
      gterm p u e + dir p (partOf p v) u * (if e.1 = v then e.2 else 0) := by
  unfold gterm dir
  rw [partOf_flipAt_ne p huv]
  by_cases hev : e.1 = v
  · rw [hev, if_pos rfl]
    simp only [partOf_flipAt_self hv hle, ite_not]
    by_cases h : partOf p u = partOf p v
    · rw [if_pos h, if_pos h.symm]; omega
    · rw [if_neg h, if_neg (Ne.symm h)]; omega
  · rw [partOf_flipAt_ne p hev, if_neg hev]; omega

theorem gainOf_eq (g : Graph) (p : List Nat) (v : Nat) :
    gainOf g p v = ((rowOf g v).map (gterm p v)).sum := rfl

theorem gainOf_flipAt (g : Graph) {p : List Nat} {v u : Nat} (hv : v < p.length) (huv : u ≠ v)
    (hle : ∀ i ∈ p, i ≤ 1) :
    gainOf g (flipAt p v) u =
      gainOf g p u + dir p (partOf p v) u * wtRow (rowOf g u) v := by
  unfold wtRow
  rw [gainOf_eq, gainOf_eq, ← sum_map_mul_left, ← sum_map_add]
  exact congrArg List.sum (List.map_congr_left fun e _ => gterm_flip e hv huv hle)

/-- Contribution of one stored entry of row `i` to the cut. -/
def cterm (p : List Nat) (i : Nat) (e : Nat × Int) : Int :=
  if e.1 < i ∧ partOf p i ≠ partOf p e.1 then e.2 else 0

theorem rowCut_eq (p : List Nat) (i : Nat) (row : Row) (hs : row.Pairwise (fun a b => a.1 < b.1)) :
    rowCut p i row = (row.map (cterm p i)).sum := by
  unfold rowCut
  rw [takeWhile_eq_filter_of_sorted i row (hs.imp Nat.le_of_lt), List.filter_filter, filter_map_sum]
  refine congrArg List.sum (List.map_congr_left fun e _ => ?_)
  simp only [cterm, Bool.and_eq_true, bne_iff_ne, ne_eq, decide_eq_true_eq, and_comm]

theorem edgeCut_eq_sum (g : Graph) (p : List Nat)
    (hs : ∀ v < g.length, (rowOf g v).Pairwise (fun a b => a.1 < b.1)) :
    edgeCut g p = ((List.range g.length).map fun i => ((rowOf g i).map (cterm p i)).sum).sum := by
  unfold edgeCut
  rw [zipIdx_eq_map_range g [], List.map_map]
  exact congrArg List.sum (List.map_congr_left fun i hi => rowCut_eq _ _ _ (hs i (List.mem_range.mp hi)))

theorem sum_range_wtRow (c : Nat → Int) (n : Nat) (row : Row) (hidx : ∀ e ∈ row, e.1 < n) :
    ((List.range n).map fun i => c i * wtRow row i).sum = (row.map fun e => c e.1 * e.2).sum := by
  induction row with
  | nil => exact sum_map_zero _ _ fun i _ => Int.mul_zero _
  | cons e row ih =>
    rw [List.map_cons, List.sum_cons, ← ih fun e he => hidx e (List.mem_cons_of_mem _ he),
      ← sum_range_ite n e.1 (fun i => c i * e.2) (hidx e List.mem_cons_self), ← sum_map_add]
    refine congrArg List.sum (List.map_congr_left fun i _ => ?_)
    rw [wtRow_cons, Int.mul_add]
    by_cases h : e.1 = i
    · rw [if_pos h, if_pos h]
    · rw [if_neg h, if_neg h, Int.mul_zero]

/-- Coefficient of `A[i, v]` in the change of the cut when `v` changes sides: only the rows below
`v` see `v` in their lower triangle. -/
def below (p : List Nat) (v i : Nat) : Int :=
  if v < i then (if partOf p i = partOf p v then -1 else 1) else 0

theorem cterm_flip_self {p : List Nat} {v : Nat} {e : Nat × Int} (hv : v < p.length)
    (hle : ∀ i ∈ p, i ≤ 1) (hev : e.1 ≠ v) :
    cterm (flipAt p v) v e =
      cterm p v e - (if e.1 < v then gterm p v e else 0) := by
  unfold cterm gterm
  rw [partOf_flipAt_ne p hev]
  simp only [ne_eq, partOf_flipAt_self hv hle, Decidable.not_not]
  by_cases hlt : e.1 < v
  · by_cases h : partOf p v = partOf p e.1
    · simp only [hlt, h, true_and, not_true, if_true, if_false]; omega
    · simp only [hlt, h, true_and, not_false_eq_true, if_true, if_false, if_neg (Ne.symm h)]; omega
  · simp only [hlt, false_and, if_false]; omega

theorem cterm_flip_other {p : List Nat} {v i : Nat} (e : Nat × Int) (hv : v < p.length)
    (hle : ∀ i ∈ p, i ≤ 1) (hiv : i ≠ v) :
    cterm (flipAt p v) i e =
      cterm p i e - below p v i * (if e.1 = v then e.2 else 0) := by
  unfold cterm below
  rw [partOf_flipAt_ne p hiv]
  by_cases hev : e.1 = v
  · rw [hev, if_pos rfl]
    simp only [ne_eq, eq_comm (a := partOf p i), partOf_flipAt_self hv hle, Decidable.not_not]
    by_cases hlt : v < i
    · by_cases h : partOf p v = partOf p i
      · simp only [hlt, h, true_and, not_true, if_true, if_false]; omega
      · simp only [hlt, h, true_and, not_false_eq_true, if_true, if_false]; omega
    · simp only [hlt, false_and, if_false]; omega
  · rw [partOf_flipAt_ne p hev, if_neg hev]; omega
/-- The gain terms of the upper and of the lower triangle of row `v` make up its gain. -/
theorem gterm_halves (p : List Nat) (v : Nat) (e : Nat × Int) (hev : e.1 ≠ v) :
    (if e.1 < v then gterm p v e else 0) + below p v e.1 * e.2 = gterm p v e := by
  unfold below gterm
  by_cases h : e.1 < v
  · rw [if_pos h, if_neg (Nat.lt_asymm h)]; omega
  · rw [if_neg h, if_pos (by omega)]; split <;> omega

theorem edgeCut_flip {g : Graph} (V : Valid g) {p : List Nat} {v : Nat} (hp : p.length = g.length)
    (hv : v < g.length) (hle : ∀ x ∈ p, x ≤ 1) :
    edgeCut g (flipAt p v) = edgeCut g p - gainOf g p v := by
  have hvp : v < p.length := hp ▸ hv
  -- Row `v` loses the gain terms of its lower triangle, a row `i` below `v` those of `A[i, v]`,
  -- which is `A[v, i]`: together all gain terms of row `v`.
  have hrow : ∀ i ∈ List.range g.length,
      ((rowOf g i).map (cterm (flipAt p v) i)).sum =
        ((rowOf g i).map (cterm p i)).sum -
          ((if v = i then ((rowOf g v).map fun e => if e.1 < v then gterm p v e else 0).sum else 0)
            + below p v i * wtRow (rowOf g v) i) := by
    intro i hi
    rw [List.mem_range] at hi
    by_cases hiv : i = v
    · subst hiv
      rw [List.map_congr_left fun e he => cterm_flip_self hvp hle (V.noloop i hi e he),
        sum_map_sub, if_pos rfl, below, if_neg (Nat.lt_irrefl i), Int.zero_mul, Int.add_zero]
    · rw [List.map_congr_left fun e _ => cterm_flip_other e hvp hle hiv, sum_map_sub,
        sum_map_mul_left, if_neg (Ne.symm hiv), Int.zero_add, ← V.sym i hi v hv]
      rfl
  rw [edgeCut_eq_sum g _ V.sorted, edgeCut_eq_sum g _ V.sorted, List.map_congr_left hrow,
    sum_map_sub, sum_map_add, sum_range_ite _ _ _ hv, sum_range_wtRow _ _ _ (V.idx v hv),
    ← sum_map_add, List.map_congr_left fun e he => gterm_halves p v e (V.noloop v hv e he)]
  rfl

theorem gain_abs_le (p : List Nat) (v : Nat) (row : Row) (hnn : ∀ e ∈ row, 0 ≤ e.2) :
    -(rowSum row) ≤ (row.map (gterm p v)).sum ∧ (row.map (gterm p v)).sum ≤ rowSum row := by
  unfold rowSum
  induction row with
  | nil => exact ⟨Int.le_refl _, Int.le_refl _⟩
  | cons e row ih =>
    have := ih fun e he => hnn e (List.mem_cons_of_mem _ he)
    have := hnn e List.mem_cons_self
    simp only [List.map_cons, List.sum_cons, gterm]
    split <;> omega

theorem le_foldl_max (l : List Int) (a : Int) :
    a ≤ l.foldl max a ∧ ∀ x ∈ l, x ≤ l.foldl max a := by
  induction l generalizing a with
  | nil => exact ⟨Int.le_refl _, fun _ h => nomatch h⟩
  | cons b l ih =>
    obtain ⟨h1, h2⟩ := ih (max a b)
    rw [List.foldl_cons]
    refine ⟨by omega, fun x hx => ?_⟩
    rcases List.mem_cons.mp hx with rfl | hx
    · omega
    · exact h2 x hx

theorem rowSum_le_mpg (g : Graph) (v : Nat) (hv : v < g.length) :
    rowSum (rowOf g v) ≤ maxPossibleGain g := by
  have hmem : rowSum (rowOf g v) ∈ g.map rowSum :=
    List.mem_map.mpr ⟨g[v], List.getElem_mem _, by rw [rowOf_eq g hv]⟩
  unfold maxPossibleGain
  split
  · next h => rw [h] at hmem; cases hmem
  · next x xs h =>
    rw [h] at hmem
    obtain ⟨h1, h2⟩ := le_foldl_max xs x
    rcases List.mem_cons.mp hmem with e | e
    · rw [e]; exact h1
    · exact h2 _ e

theorem gain_inRange {g : Graph} (V : Valid g) (p : List Nat) (v : Nat) (hv : v < g.length) :
    inRange (maxPossibleGain g) (gainOf g p v) = true := by
  have h1 := gain_abs_le p v (rowOf g v) (V.nonneg v hv)
  have h2 := rowSum_le_mpg g v hv
  rw [inRange_iff, gainOf_eq]
  omega

theorem mpg_nonneg {g : Graph} (V : Valid g) : 0 ≤ maxPossibleGain g := by
  cases g with
  | nil => exact Int.le_refl 0
  | cons r g =>
    have h2 := rowSum_le_mpg (r :: g) 0 (Nat.zero_lt_succ _)
    have h1 := gain_abs_le [] 0 (rowOf (r :: g) 0) (V.nonneg 0 (Nat.zero_lt_succ _))
    omega

theorem edgeCut_nonneg {g : Graph} (V : Valid g) (p : List Nat) : 0 ≤ edgeCut g p := by
  rw [edgeCut_eq_sum g p V.sorted]
  refine sum_map_nonneg _ fun i hi => sum_map_nonneg _ fun e he => ?_
  have := V.nonneg i (List.mem_range.mp hi) e he
  unfold cterm
  split <;> omega

theorem negTotal_nonneg (g : Graph) : 0 ≤ negTotal g := by
  refine sum_map_nonneg _ fun row _ => sum_map_nonneg _ fun e _ => ?_
  split <;> omega

theorem applyMove_eq_ok {prm : Params} {g : Graph} {ws : List Int} {mpg : Int} {st st' : PassSt}
    {k v : Nat} {gn : Int} {nS : Nat} :
    applyMove prm g ws mpg st k v gn nS = .ok st' ↔
      (prm.dbg = true → st.cur - gn = edgeCut g (flipAt st.part v)) ∧
      ∃ gains', updNbrs mpg (flipAt st.part v) (partOf st.part v) (rowOf g v)
          (st.gains.set v none) = .ok gains' ∧
        st' = { part := flipAt st.part v
                pw0 := st.pw0 - back ws (v, partOf st.part v)
                pw1 := st.pw1 + back ws (v, partOf st.part v)
                gains := gains'
                cur := st.cur - gn
                best := if st.cur - gn < st.best then st.cur - gn else st.best
                bestAt := if st.cur - gn < st.best then some k else st.bestAt
                bad := st.bad
                hist := st.hist ++ [(v, partOf st.part v)]
                log := st.log ++ [nS] } := by
  unfold applyMove flipAt
  simp only [add_back, sub_back]
  constructor
  · intro h
    split at h
    · cases h
    · next hdbg =>
      split at h
      · cases h
      · next gains' hu =>
        exact ⟨fun hd => by simpa [hd] using hdbg, gains', hu, (Except.ok.inj h).symm⟩
  · rintro ⟨hc, gains', hu, rfl⟩
    rw [if_neg (by simpa using hc), hu]

theorem load_flip (ws : List Int) {p : List Nat} {v : Nat} (hv : v < p.length)
    (hle : ∀ i ∈ p, i ≤ 1) :
    load ws (flipAt p v) 0 = load ws p 0 - back ws (v, partOf p v) ∧
    load ws (flipAt p v) 1 = load ws p 1 + back ws (v, partOf p v) := by
  rw [flipAt, load_set ws p v _ 0 hv, load_set ws p v _ 1 hv]
  rcases (by have := partOf_le_one hle v; omega : partOf p v = 0 ∨ partOf p v = 1) with h | h <;>
    rw [h] <;> simp [back, Int.sub_eq_add_neg]

theorem getD_set_none_some {gs : List (Option Int)} {v u : Nat} {x : Int}
    (h : (gs.set v none).getD u none = some x) : u ≠ v ∧ gs.getD u none = some x := by
  by_cases huv : v = u
  · subst huv
    rw [getD_set_self _ _ _ _ (by simpa using getD_some_lt h)] at h
    cases h
  · exact ⟨Ne.symm huv, by rwa [getD_set_ne _ _ _ _ _ huv] at h⟩

/-- Symmetry is what makes the `± 2·w` update exact: what `updNbrs` adds to the gain of a
neighbour `u` of `v` (read off row `v`) is the change of its gain (a sum over row `u`). -/
theorem gain_update {g : Graph} (V : Valid g) {p : List Nat} {v u : Nat} (hp : p.length = g.length)
    (hle : ∀ i ∈ p, i ≤ 1) (hv : v < g.length) (hu : u < g.length) (huv : u ≠ v) :
    gainOf g p u + dir (flipAt p v) (partOf p v) u * wtRow (rowOf g v) u =
      gainOf g (flipAt p v) u := by
  rw [gainOf_flipAt g (hp ▸ hv) huv hle, V.sym u hu v hv, dir, dir, partOf_flipAt_ne p huv]

/-- `gain_inv`: the gain table holds the true gain of every free vertex. -/
def GInv (g : Graph) (st : PassSt) : Prop :=
  ∀ u x, st.gains.getD u none = some x → x = gainOf g st.part u

/-- A `(partition, load 0, load 1)` triple `s` (what `restore` works on) with tracked cut `cutv`, at
most `bound` relabellings away from `q`.  The tracked cut is known to be the true cut when the debug
assertion compares the two, and on a valid graph (where the gains it is updated with are exact). -/
structure Good (prm : Params) (g : Graph) (ws : List Int) (cap lb0 lb1 : Int) (q : List Nat)
    (bound : Nat) (cutv : Int) (s : List Nat × Int × Int) : Prop where
  wlen : s.1.length = ws.length
  glen : s.1.length = g.length
  plen : s.1.length = q.length
  ple : ∀ i ∈ s.1, i ≤ 1
  pw0 : s.2.1 = load ws s.1 0
  pw1 : s.2.2 = load ws s.1 1
  capb : (∀ w ∈ ws, 0 ≤ w) → s.2.1 ≤ max lb0 cap ∧ s.2.2 ≤ max lb1 cap
  hamc : ham q s.1 ≤ bound
  cut : prm.dbg = true ∨ Valid g → cutv = edgeCut g s.1

/-- Invariant of the move loop of the pass that starts from `o`, itself at most `b` relabellings
away from `q` (`k` = `move_num`).  `snap`: undoing the moves after the best one leads to a `Good`
triple whose cut is `best`. -/
structure Inv (prm : Params) (g : Graph) (ws : List Int) (cap lb0 lb1 : Int) (q : List Nat)
    (b : Nat) (o : Outer) (k : Nat) (st : PassSt) : Prop where
  cur : Good prm g ws cap lb0 lb1 q (b + k) st.cur (st.part, st.pw0, st.pw1)
  glen : st.gains.length = g.length
  hlen : st.hist.length = k
  hist : ∀ e ∈ st.hist, st.gains.getD e.1 none = none
  free : countSome st.gains + k = g.length
  rew : rewindTo st.bestAt ≤ k
  ble : st.best ≤ o.best
  snap : Good prm g ws cap lb0 lb1 q (b + rewindTo st.bestAt) st.best
    (restore ws (st.hist.drop (rewindTo st.bestAt)) (st.part, st.pw0, st.pw1))
  gain : Valid g → GInv g st

section
variable {prm : Params} {g : Graph} {ws : List Int} {mpg cap lb0 lb1 : Int} {q : List Nat} {b : Nat}
  {o : Outer} {k : Nat} {st : PassSt}

theorem Inv.setBad (I : Inv prm g ws cap lb0 lb1 q b o k st) (n : Nat) :
    Inv prm g ws cap lb0 lb1 q b o k { st with bad := n } :=
  ⟨I.cur, I.glen, I.hlen, I.hist, I.free, I.rew, I.ble, I.snap, I.gain⟩

theorem Good.move {v : Nat} {cutv : Int}
    (G : Good prm g ws cap lb0 lb1 q k st.cur (st.part, st.pw0, st.pw1))
    (hv : v < st.part.length) (hadm : ¬ cap < targetW ws st v)
    (hc : prm.dbg = true ∨ Valid g → cutv = edgeCut g (flipAt st.part v)) :
    Good prm g ws cap lb0 lb1 q (k + 1) cutv (flipAt st.part v,
      st.pw0 - back ws (v, partOf st.part v), st.pw1 + back ws (v, partOf st.part v)) := by
  have hip : partOf st.part v ≤ 1 := partOf_le_one G.ple v
  have hl := length_flipAt st.part v
  obtain ⟨l0, l1⟩ := load_flip ws hv G.ple
  refine ⟨hl.trans G.wlen, hl.trans G.glen, hl.trans G.plen, fun i hi => ?_,
    by rw [l0]; exact G.pw0 ▸ rfl, by rw [l1]; exact G.pw1 ▸ rfl,
    fun hnn => ?_, Nat.le_trans (ham_set ..) (Nat.succ_le_succ G.hamc), hc⟩
  · rcases List.mem_or_eq_of_mem_set hi with h | h
    · exact G.ple i h
    · omega
  · -- the part `v` leaves gets lighter, the other one passed the cap test
    have hw := wOf_nonneg hnn v
    obtain ⟨c0, c1⟩ : st.pw0 ≤ max lb0 cap ∧ st.pw1 ≤ max lb1 cap := G.capb hnn
    unfold targetW at hadm
    dsimp only
    rcases (by omega : partOf st.part v = 0 ∨ partOf st.part v = 1) with h | h <;> rw [h] at hadm ⊢
    · rw [if_neg (by decide)] at hadm
      show st.pw0 - wOf ws v ≤ _ ∧ st.pw1 + wOf ws v ≤ _
      omega
    · rw [if_pos (by decide)] at hadm
      show st.pw0 - -wOf ws v ≤ _ ∧ st.pw1 + -wOf ws v ≤ _
      omega

theorem ginv_move (V : Valid g) {p : List Nat} {gs gs' : List (Option Int)} {v : Nat}
    (hp : p.length = g.length) (hgl : gs.length = g.length) (hle : ∀ i ∈ p, i ≤ 1)
    (hv : v < g.length) (GI : ∀ u x, gs.getD u none = some x → x = gainOf g p u)
    (hu : updNbrs mpg (flipAt p v) (partOf p v) (rowOf g v) (gs.set v none) = .ok gs')
    (u : Nat) (x : Int) (hx : gs'.getD u none = some x) :
    x = gainOf g (flipAt p v) u := by
  rw [(updNbrs_spec hu).2.2 u] at hx
  cases hgu : (gs.set v none).getD u none with
  | none => rw [hgu] at hx; cases hx
  | some y =>
    obtain ⟨huv, hy⟩ := getD_set_none_some hgu
    rw [hgu, GI u y hy] at hx
    exact (Option.some.inj hx).symm.trans
      (gain_update V hp hle hv (hgl ▸ getD_some_lt hy) huv)

theorem applyMove_inv {st' : PassSt} {v : Nat} {gn : Int} {nS : Nat}
    (I : Inv prm g ws cap lb0 lb1 q b o k st)
    (hv : v < st.gains.length) (hgv : st.gains.getD v none = some gn)
    (hadm : ¬ cap < targetW ws st v)
    (h : applyMove prm g ws mpg st k v gn nS = .ok st') :
    Inv prm g ws cap lb0 lb1 q b o (k + 1) st' := by
  obtain ⟨hc, gains', hu, rfl⟩ := applyMove_eq_ok.mp h
  obtain ⟨hgl, hcn, hgs⟩ := updNbrs_spec hu
  have hpl : st.part.length = g.length := I.cur.glen
  have hvp : v < st.part.length := I.cur.glen ▸ I.glen ▸ hv
  -- the new tracked cut is checked by the assertion, or follows from the exact gain of `v`
  have hcut : prm.dbg = true ∨ Valid g → st.cur - gn = edgeCut g (flipAt st.part v) := by
    intro ct
    by_cases hd : prm.dbg = true
    · exact hc hd
    · have V := ct.resolve_left hd
      rw [I.cur.cut ct, I.gain V v gn hgv, edgeCut_flip V hpl (hpl ▸ hvp) I.cur.ple]
  have G' := I.cur.move hvp hadm hcut
  have hnone : ∀ u, (st.gains.set v none).getD u none = none → gains'.getD u none = none :=
    fun u hu => by rw [hgs u, hu]; rfl
  have hnotin : ∀ e ∈ st.hist, e.1 ≠ v := fun e he hev => by
    have := I.hist e he
    rw [hev, hgv] at this
    cases this
  refine ⟨G', hgl.trans ((List.length_set ..).trans I.glen),
    by rw [List.length_append, I.hlen]; rfl, ?_, ?_, ?_, ?_, ?_,
    fun V => ginv_move V hpl I.glen I.cur.ple (hpl ▸ hvp) (I.gain V) hu⟩
  · intro e he
    rcases List.mem_append.mp he with he | he
    · exact hnone _ (by rw [getD_set_ne _ _ _ _ _ (hnotin e he).symm]; exact I.hist e he)
    · rw [List.mem_singleton.mp he]
      exact hnone _ (getD_set_self _ _ _ _ hv)
  · have : countSome (st.gains.set v none) + 1 = countSome st.gains :=
      countSome_set st.gains v gn none hgv
    have := I.free
    show countSome gains' + (k + 1) = g.length
    omega
  · show rewindTo (if st.cur - gn < st.best then some k else st.bestAt) ≤ k + 1
    split
    · exact Nat.le_refl _
    · exact Nat.le_succ_of_le I.rew
  · show (if st.cur - gn < st.best then st.cur - gn else st.best) ≤ o.best
    have := I.ble
    split <;> omega
  · by_cases hlt : st.cur - gn < st.best
    · -- a new best: nothing to undo
      simp only [hlt, if_true]
      rw [List.drop_eq_nil_of_le (by rw [List.length_append, I.hlen]; exact Nat.le_refl _)]
      exact G'
    · -- undoing the new move last leads to the old snapshot
      simp only [hlt, if_false]
      rw [List.drop_append_of_le_length (I.hlen ▸ I.rew), flipAt,
        restore_move ws _ _ _ _ _ _ fun e he => hnotin e (List.mem_of_mem_drop he)]
      exact I.snap

theorem limitReached_false {lim : Option Nat} {k : Nat} (h : ¬ limitReached lim k = true) (m : Nat)
    (hm : lim = some m) : k + 1 ≤ m := by
  subst hm
  have : ¬ m ≤ k := by simpa [limitReached] using h
  omega

theorem movesLoop_succ (ch : Nat → Nat) (prm : Params) (g : Graph) (ws : List Int) (cap mpg : Int)
    (fuel k : Nat) (st : PassSt) :
    movesLoop ch prm g ws cap mpg (fuel + 1) k st = .ok st ∨
    ∃ gn s, select ws cap st = some (gn, s) ∧ ¬ limitReached prm.maxMoves k = true ∧
      movesLoop ch prm g ws cap mpg (fuel + 1) k st =
        (applyMove prm g ws mpg { st with bad := if gn ≤ 0 then st.bad + 1 else 0 } k
          (pick (ch k) s) gn s.length).bind (movesLoop ch prm g ws cap mpg fuel (k + 1)) := by
  rw [movesLoop]
  by_cases hlim : limitReached prm.maxMoves k = true
  · exact Or.inl (if_pos hlim)
  · rw [if_neg hlim]
    cases hsel : select ws cap st with
    | none => exact Or.inl rfl
    | some x =>
      obtain ⟨gn, s⟩ := x
      by_cases hstop : gn ≤ 0 ∧ prm.maxBad ≤ st.bad
      · exact Or.inl (if_pos hstop)
      · refine Or.inr ⟨gn, s, rfl, hlim, ?_⟩
        simp only [if_neg hstop]
        generalize applyMove prm g ws mpg _ k _ gn _ = r
        cases r <;> rfl

theorem movesLoop_inv {ch : Nat → Nat} (fuel k : Nat) (st st' : PassSt)
    (I : Inv prm g ws cap lb0 lb1 q b o k st) (hk : ∀ m, prm.maxMoves = some m → k ≤ m)
    (h : movesLoop ch prm g ws cap mpg fuel k st = .ok st') :
    ∃ k', Inv prm g ws cap lb0 lb1 q b o k' st' ∧ ∀ m, prm.maxMoves = some m → k' ≤ m := by
  induction fuel generalizing k st with
  | zero => cases h
  | succ fuel ih =>
    rcases movesLoop_succ ch prm g ws cap mpg fuel k st with hs | ⟨gn, s, hsel, hlim, hs⟩
    · cases hs.symm.trans h
      exact ⟨k, I, hk⟩
    · obtain ⟨hp, hgv, hadm⟩ := select_pick hsel (ch k)
      rw [hs] at h
      cases h1 : applyMove prm g ws mpg { st with bad := if gn ≤ 0 then st.bad + 1 else 0 } k
          (pick (ch k) s) gn s.length with
      | error a => rw [h1] at h; cases h
      | ok st1 =>
        rw [h1] at h
        exact ih (k + 1) st1
          (applyMove_inv (I.setBad (if gn ≤ 0 then st.bad + 1 else 0)) hp hgv hadm h1)
          (limitReached_false hlim) h

end

theorem initPass_ginv (g : Graph) (o : Outer) : GInv g (initPass g o) := by
  intro u x hx
  have hlt := getD_some_lt hx
  simp only [initPass, List.length_map, List.length_range] at hlt
  simp only [initPass, List.getD_eq_getElem?_getD] at hx
  rw [List.getElem?_eq_getElem (by simpa using hlt)] at hx
  simp at hx
  exact hx.symm

/-- Invariant of the pass loop (`i` = number of passes done, `p0` = input ids, `c0` = input cut). -/
structure OInv (prm : Params) (g : Graph) (ws : List Int) (cap lb0 lb1 : Int) (p0 : List Nat)
    (c0 : Int) (i : Nat) (o : Outer) : Prop where
  good : Good prm g ws cap lb0 lb1 p0 (kept o.moves o.rewound) o.best (o.part, o.pw0, o.pw1)
  cutle : o.best ≤ c0
  mlen : o.moves.length = i
  rlen : o.rewound.length = i
  mle : ∀ m, prm.maxMoves = some m → ∀ x ∈ o.moves, x ≤ m
  rle : ∀ x ∈ o.moves.zip o.rewound, x.2 ≤ x.1

section
variable {prm : Params} {g : Graph} {ws : List Int} {mpg cap lb0 lb1 : Int} {p0 : List Nat}
  {c0 : Int} {i : Nat} {o : Outer}

theorem initPass_inv {q : List Nat} {b : Nat}
    (G : Good prm g ws cap lb0 lb1 q b o.best (o.part, o.pw0, o.pw1)) :
    Inv prm g ws cap lb0 lb1 q b o 0 (initPass g o) :=
  ⟨G, by simp [initPass, G.glen], rfl, fun _ he => (nomatch he),
    by simp only [initPass]; rw [countSome_map_some, List.length_range]; exact G.glen,
    Nat.le_refl 0, Int.le_refl _, G, fun _ => initPass_ginv g o⟩

theorem onePass_eq_ok {ch : Nat → Nat} {o' : Outer} :
    onePass ch prm g ws cap mpg o = .ok o' ↔
      (∀ v < o.part.length, inRange mpg (gainOf g o.part v) = true) ∧
      ∃ st, movesLoop ch prm g ws cap mpg (o.part.length + 1) 0 (initPass g o) = .ok st ∧
        rewindTo st.bestAt ≤ st.hist.length ∧
        ∃ R, R = restore ws (st.hist.drop (rewindTo st.bestAt)) (st.part, st.pw0, st.pw1) ∧
        o' = { part := R.1, pw0 := R.2.1, pw1 := R.2.2, best := st.best
               moves := o.moves ++ [st.hist.length]
               rewound := o.rewound ++ [st.hist.length - rewindTo st.bestAt]
               logs := o.logs ++ [st.log] } := by
  unfold onePass
  constructor
  · intro h
    split at h
    · cases h
    · next hall =>
      split at h
      · cases h
      · next st hml =>
        simp only at h
        split at h
        · cases h
        · next hr =>
          exact ⟨by simpa using hall, st, hml, Nat.le_of_not_lt hr, _, rfl, (Except.ok.inj h).symm⟩
  · rintro ⟨hall, st, hml, hr, _, rfl, rfl⟩
    rw [if_neg (by simpa using hall), hml]
    simp only
    rw [if_neg (Nat.not_lt_of_le hr)]

theorem onePass_inv {ch : Nat → Nat} {o' : Outer} (O : OInv prm g ws cap lb0 lb1 p0 c0 i o)
    (h : onePass ch prm g ws cap mpg o = .ok o') :
    OInv prm g ws cap lb0 lb1 p0 c0 (i + 1) o' ∧ o'.best ≤ o.best := by
  obtain ⟨-, st, hml, -, ⟨sp, sa, sb⟩, hR, rfl⟩ := onePass_eq_ok.mp h
  obtain ⟨k', I, hkm⟩ := movesLoop_inv _ 0 _ _ (initPass_inv O.good) (fun m _ => Nat.zero_le m) hml
  have GS := hR ▸ I.snap
  have hlen : o.moves.length = o.rewound.length := O.mlen.trans O.rlen.symm
  refine ⟨⟨{ GS with hamc := ?_ },
    Int.le_trans I.ble O.cutle, by simp [O.mlen], by simp [O.rlen], ?_, ?_⟩, I.ble⟩
  · -- the moves kept in the pass are those up to the best one
    have h1 : ham p0 sp ≤ kept o.moves o.rewound + rewindTo st.bestAt := GS.hamc
    have h2 := I.rew
    show ham p0 sp ≤ kept (o.moves ++ [st.hist.length])
      (o.rewound ++ [st.hist.length - rewindTo st.bestAt])
    rw [kept_append _ _ _ _ hlen, I.hlen]
    omega
  · intro m hm x hx
    rcases List.mem_append.mp hx with hx | hx
    · exact O.mle m hm x hx
    · rw [List.mem_singleton.mp hx, I.hlen]; exact hkm m hm
  · intro x hx
    rw [List.zip_append hlen] at hx
    rcases List.mem_append.mp hx with hx | hx
    · exact O.rle x hx
    · rw [List.mem_singleton.mp hx]; exact Nat.sub_le _ _

theorem passLoop_inv {ch : Nat → Nat → Nat} (fuel i : Nat) (o o' : Outer)
    (O : OInv prm g ws cap lb0 lb1 p0 c0 i o) (hi : ∀ m, prm.maxPasses = some m → i ≤ m)
    (h : passLoop ch prm g ws cap mpg fuel i o = .ok o') :
    ∃ i', OInv prm g ws cap lb0 lb1 p0 c0 i' o' ∧ ∀ m, prm.maxPasses = some m → i' ≤ m := by
  induction fuel generalizing i o with
  | zero => cases h
  | succ fuel ih =>
    rw [passLoop] at h
    split at h
    · cases h; exact ⟨i, O, hi⟩
    · next hlim =>
      split at h
      · cases h
      · next o1 hop =>
        have O1 := (onePass_inv O hop).1
        split at h
        · cases h; exact ⟨i + 1, O1, limitReached_false hlim⟩
        · exact ih (i + 1) o1 O1 (limitReached_false hlim) h

end

theorem run_cases (ch : Nat → Nat → Nat) (prm : Params) (capOpt : Option Int) (g : Graph)
    (ws : List Int) (p : List Nat) :
    run ch prm capOpt g ws p = .lenMismatch ∨ run ch prm capOpt g ws p = .biOnly ∨
    p.length = ws.length ∧ p.length = g.length ∧ (∀ i ∈ p, i ≤ 1) ∧
      run ch prm capOpt g ws p =
        if p = [] then .ok ⟨[], [], [], []⟩ else
        if maxPossibleGain g < 0 then .abort .capacity else
        match passLoop ch prm g ws (capOf capOpt ws p) (maxPossibleGain g) (passFuel g p) 0
          ⟨p, load ws p 0, load ws p 1, edgeCut g p, [], [], []⟩ with
        | .error a => .abort a
        | .ok o => .ok ⟨o.part, o.moves, o.rewound, o.logs⟩ := by
  unfold run
  by_cases h1 : p.length = ws.length
  · by_cases h2 : p.length = g.length
    · rw [if_neg (not_not_intro h1), if_neg (not_not_intro h2)]
      by_cases h3 : p = []
      · subst h3
        exact Or.inr (Or.inr ⟨h1, h2, fun _ h => (nomatch h), rfl⟩)
      · rw [if_neg (by simpa using h3)]
        by_cases h4 : p.any (fun i => decide (1 < i)) = true
        · exact Or.inr (Or.inl (if_pos h4))
        · refine Or.inr (Or.inr ⟨h1, h2, fun i hi => Nat.le_of_not_lt fun hlt =>
            h4 (List.any_eq_true.mpr ⟨i, hi, decide_eq_true hlt⟩), ?_⟩)
          rw [if_neg h4, if_neg h3]
          rfl
    · exact Or.inl (by rw [if_neg (not_not_intro h1), if_pos h2])
  · exact Or.inl (if_pos h1)

section
variable {ch : Nat → Nat → Nat} {prm : Params} {capOpt : Option Int} {g : Graph} {ws : List Int}
  {p : List Nat} {r : Result}

theorem run_empty (h : run ch prm capOpt g ws [] = .ok r) : r = ⟨[], [], [], []⟩ := by
  rcases run_cases ch prm capOpt g ws [] with h' | h' | ⟨-, -, -, h'⟩ <;> rw [h'] at h <;> cases h
  rfl

theorem Good.init (prm : Params) (cap : Int) {c a b : Int}
    (hws : p.length = ws.length) (hg : p.length = g.length) (hle : ∀ i ∈ p, i ≤ 1)
    (ha : a = load ws p 0) (hb : b = load ws p 1) (hc : c = edgeCut g p) :
    Good prm g ws cap a b p 0 c (p, a, b) :=
  ⟨hws, hg, rfl, hle, ha, hb, fun _ => ⟨Int.le_max_left .., Int.le_max_left ..⟩,
    Nat.le_of_eq (ham_self p), fun _ => hc⟩

theorem OInv.init (prm : Params) (cap : Int)
    (hws : p.length = ws.length) (hg : p.length = g.length) (hle : ∀ i ∈ p, i ≤ 1) :
    OInv prm g ws cap (load ws p 0) (load ws p 1) p (edgeCut g p) 0
      ⟨p, load ws p 0, load ws p 1, edgeCut g p, [], [], []⟩ :=
  ⟨Good.init prm cap hws hg hle rfl rfl rfl, Int.le_refl _, rfl, rfl,
    fun _ _ _ hx => (nomatch hx), fun _ hx => (nomatch hx)⟩

theorem run_inv (h : run ch prm capOpt g ws p = .ok r) :
    ∃ i o, OInv prm g ws (capOf capOpt ws p) (load ws p 0) (load ws p 1) p (edgeCut g p) i o ∧
      (∀ m, prm.maxPasses = some m → i ≤ m) ∧ r = ⟨o.part, o.moves, o.rewound, o.logs⟩ := by
  rcases run_cases ch prm capOpt g ws p with h' | h' | ⟨hl1, hl2, hle, h'⟩ <;> rw [h'] at h
  · cases h
  · cases h
  · have O0 := OInv.init prm (capOf capOpt ws p) hl1 hl2 hle
    split at h
    · next he => cases h; exact ⟨0, _, O0, fun _ _ => Nat.zero_le _, by rw [he]⟩
    · split at h
      · cases h
      · split at h
        · cases h
        · next o hpl =>
          obtain ⟨i', O', hi'⟩ := passLoop_inv _ 0 _ _ O0 (fun _ _ => Nat.zero_le _) hpl
          exact ⟨i', o, O', hi', (Outcome.ok.inj h).symm⟩

end

section
variable {prm : Params} {g : Graph} {ws : List Int} {cap lb0 lb1 : Int} {p0 : List Nat} {c0 : Int}
  {i : Nat} {o : Outer}

/-- On a valid graph a move of a free vertex with an exact gain table does not abort: the debug
assertion holds (`edgeCut_flip`) and all gains stay in range, being gains. -/
theorem applyMove_ok {st : PassSt} {k v : Nat} {gn : Int} {nS : Nat} (V : Valid g)
    (hpl : st.part.length = g.length) (hgl : st.gains.length = g.length)
    (hle : ∀ i ∈ st.part, i ≤ 1) (GI : GInv g st) (hcut : st.cur = edgeCut g st.part)
    (hv : v < g.length) (hgv : st.gains.getD v none = some gn) :
    ∃ st', applyMove prm g ws (maxPossibleGain g) st k v gn nS = .ok st' := by
  obtain ⟨gs', h⟩ := updNbrs_ok (mpg := maxPossibleGain g)
    (part := flipAt st.part v) (ip := partOf st.part v)
    (rowOf g v) (st.gains.set v none) (V.nonneg v hv) (by
      intro u x hx
      obtain ⟨huv, hx⟩ := getD_set_none_some hx
      have hul : u < g.length := hgl ▸ getD_some_lt hx
      rw [GI u x hx, gain_update V hpl hle hv hul huv]
      exact ⟨gain_inRange V _ u hul, gain_inRange V _ u hul⟩)
  exact ⟨_, applyMove_eq_ok.mpr ⟨fun _ => by
    rw [hcut, GI v gn hgv, edgeCut_flip V hpl hv hle], gs', h, rfl⟩⟩

theorem movesLoop_total {ch : Nat → Nat} (V : Valid g) (fuel k : Nat) (st : PassSt)
    (I : Inv prm g ws cap lb0 lb1 q b o k st) (hf : g.length < fuel + k) :
    ∃ st', movesLoop ch prm g ws cap (maxPossibleGain g) fuel k st = .ok st' := by
  induction fuel generalizing k st with
  | zero => have := I.free; omega
  | succ fuel ih =>
    rcases movesLoop_succ ch prm g ws cap (maxPossibleGain g) fuel k st with
      hs | ⟨gn, s, hsel, -, hs⟩
    · exact ⟨st, hs⟩
    · obtain ⟨hp, hgv, hadm⟩ := select_pick hsel (ch k)
      have I1 := I.setBad (if gn ≤ 0 then st.bad + 1 else 0)
      obtain ⟨st1, h1⟩ := applyMove_ok (prm := prm) (ws := ws)
        (st := { st with bad := if gn ≤ 0 then st.bad + 1 else 0 }) (k := k) (nS := s.length) V
        I1.cur.glen I.glen I1.cur.ple (I1.gain V) (I1.cur.cut (Or.inr V)) (I.glen ▸ hp) hgv
      rw [hs, h1]
      exact ih (k + 1) st1 (applyMove_inv I1 hp hgv hadm h1) (by omega)

theorem onePass_total {ch : Nat → Nat} (V : Valid g) (O : OInv prm g ws cap lb0 lb1 p0 c0 i o) :
    ∃ o', onePass ch prm g ws cap (maxPossibleGain g) o = .ok o' := by
  have I0 := initPass_inv O.good
  obtain ⟨st, hst⟩ := movesLoop_total (ch := ch) V (o.part.length + 1) 0 _ I0
    (O.good.glen ▸ Nat.lt_succ_self _)
  obtain ⟨k', I, -⟩ := movesLoop_inv _ 0 _ _ I0 (fun _ _ => Nat.zero_le _) hst
  exact ⟨_, onePass_eq_ok.mpr ⟨fun v hv => gain_inRange V _ v (O.good.glen ▸ hv), st, hst,
    I.hlen ▸ I.rew, _, rfl, rfl⟩⟩

theorem passLoop_total {ch : Nat → Nat → Nat} (V : Valid g) (fuel i : Nat) (o : Outer)
    (O : OInv prm g ws cap lb0 lb1 p0 c0 i o) (hf : o.best < fuel) :
    ∃ o', passLoop ch prm g ws cap (maxPossibleGain g) fuel i o = .ok o' := by
  induction fuel generalizing i o with
  | zero =>
    have := edgeCut_nonneg V o.part
    have : o.best = edgeCut g o.part := O.good.cut (Or.inr V)
    omega
  | succ fuel ih =>
    rw [passLoop]
    split
    · exact ⟨_, rfl⟩
    · obtain ⟨o1, h1⟩ := onePass_total (ch := ch i) V O
      obtain ⟨O1, hle⟩ := onePass_inv O h1
      rw [h1]
      simp only
      split
      · exact ⟨_, rfl⟩
      · exact ih (i + 1) o1 O1 (by omega)

end

theorem movesLoop_reach {ch : Nat → Nat} {prm : Params} {g : Graph} {ws : List Int} {cap : Int}
    {o : Outer} {st : PassSt} (V : Valid g) (fuel : Nat)
    (hg : o.part.length = g.length) (hws : o.part.length = ws.length)
    (hle : ∀ i ∈ o.part, i ≤ 1) (hp0 : o.pw0 = load ws o.part 0) (hp1 : o.pw1 = load ws o.part 1)
    (hb : o.best = edgeCut g o.part)
    (h : movesLoop ch prm g ws cap (maxPossibleGain g) fuel 0 (initPass g o) = .ok st) :
    GInv g st ∧ st.cur = edgeCut g st.part := by
  obtain ⟨k', I, -⟩ := movesLoop_inv fuel 0 _ _
    (initPass_inv (Good.init prm cap hws hg hle hp0 hp1 hb)) (fun _ _ => Nat.zero_le _) h
  exact ⟨I.gain V, I.cur.cut (Or.inr V)⟩

end Coupe.Fm
