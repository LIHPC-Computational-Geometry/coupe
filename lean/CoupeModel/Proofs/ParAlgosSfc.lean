import CoupeModel.Model.Par
import CoupeModel.Model.Sfc
import CoupeModel.Proofs.Par
import CoupeModel.Proofs.Sfc
import CoupeModel.Props.C06
import CoupeModel.Props.C09

/-!
# ZCurve and HilbertCurve under every schedule

Both algorithms compute, per point, a value that depends only on the point (its position
in the sorted permutation / its curve index and the split positions) and store it in the
point's own cell.  What rayon decides is the order of the stores, how `map(..).collect()`
is cut, and (Hilbert) the split trees of the `part_weights` fold in every pass of
`weighted_quantiles` and of the `min_by`/`max_by` of the indices.
-/

namespace Coupe.ParAlgos

open Coupe.Par Coupe.Sfc

/-- The stores of `z_curve_partition`'s `for_each`: `partition[perm[pos]] = chunkId pos`. -/
def zWrites (n k : Nat) (perm : List Nat) : List (Nat × Nat) :=
  perm.zipIdx.map (fun x => (x.1, ZCurve.chunkId n k x.2))

/-- `ZCurve.writeIds` with the stores performed in the order `stores` puts them. -/
def zWriteIdsT (stores : List (Nat × Nat) → List (Nat × Nat)) (n k : Nat) (perm p0 : List Nat) :
    List Nat :=
  disjointWrites p0 (stores (zWrites n k perm))

/-- `ZCurve.partition` under a store order (`z_curve_partition_recurse` has no other schedule
dependence: its `for_each` over the sub-slices runs a pure function on disjoint slices, and
`par_sort_unstable_by_key` is the parameter `sortBy`). -/
def zPartitionT (stores : List (Nat × Nat) → List (Nat × Nat)) (dim order k : Nat)
    (sortBy : (Nat → Nat) → List Nat → List Nat) (region : List Nat → Nat → Nat) (n : Nat)
    (p0 : List Nat) : ZCurve.Outcome :=
  if p0.length ≠ n then .panic "assertion `left == right` failed"
  else if ZCurve.maxOrder dim < order then .panic "Cannot use the z-curve partition algorithm"
  else if n = 0 then .ok p0
  else
    match ZCurve.sortRec (2 ^ dim) sortBy region order [] (List.range n) with
    | none => .panic "z_curve_partition_recurse"
    | some perm =>
      if k = 0 then .panic "attempt to divide by zero"
      else .ok (zWriteIdsT stores n k perm p0)

theorem zWrites_targets (n k : Nat) (perm : List Nat) : (zWrites n k perm).map (·.1) = perm :=
  (List.map_map ..).trans (List.zipIdx_map_fst ..)

theorem zWriteIdsT_eq (stores : List (Nat × Nat) → List (Nat × Nat))
    (hst : ∀ ws : List (Nat × Nat), ws.Perm (stores ws)) (n k : Nat) (perm p0 : List Nat)
    (hnd : perm.Nodup) : zWriteIdsT stores n k perm p0 = ZCurve.writeIds n k perm p0 := by
  rw [ZCurve.writeIds_eq]
  change _ = disjointWrites p0 (zWrites n k perm)
  unfold zWriteIdsT
  symm
  apply disjointWrites_comm _ _ _ _ (hst _)
  rw [zWrites_targets]
  exact hnd

/-- Minimum of two `Option`s (`None` = no item yet): the reduce operator of `min_by`. -/
def optMin : Option Nat → Option Nat → Option Nat
  | none, b => b
  | a, none => a
  | some a, some b => some (min a b)

def optMax : Option Nat → Option Nat → Option Nat
  | none, b => b
  | a, none => a
  | some a, some b => some (max a b)

/-- `points.par_iter().min_by(partial_cmp)` on `u64`s along a split tree (value level: equal
minima are indistinguishable). -/
def parMin (t : SplitTree) (xs : List Nat) : Option (Option Nat) :=
  parFoldWith (fun a x => optMin a (some x)) optMin none t xs

def parMax (t : SplitTree) (xs : List Nat) : Option (Option Nat) :=
  parFoldWith (fun a x => optMax a (some x)) optMax none t xs

theorem parMin_schedule_free (t : SplitTree) (xs : List Nat) :
    parMin t xs = some (xs.foldl (fun a x => optMin a (some x)) none) := by
  unfold parMin
  refine parFoldWith_eq_foldl_of_comm_idem optMin none some _ ?_ ?_ rfl (fun _ _ => rfl) t xs
  · intro a b c
    cases a <;> cases b <;> cases c <;> simp [optMin, Nat.min_assoc]
  · intro a b
    cases a <;> cases b <;> simp [optMin, Nat.min_comm]

theorem parMax_schedule_free (t : SplitTree) (xs : List Nat) :
    parMax t xs = some (xs.foldl (fun a x => optMax a (some x)) none) := by
  unfold parMax
  refine parFoldWith_eq_foldl_of_comm_idem optMax none some _ ?_ ?_ rfl (fun _ _ => rfl) t xs
  · intro a b c
    cases a <;> cases b <;> cases c <;> simp [optMax, Nat.max_assoc]
  · intro a b
    cases a <;> cases b <;> simp [optMax, Nat.max_comm]

/-- Everything rayon decides during one call of `hilbert_curve_partition`. -/
structure HilbertSched where
  /-- `points.par_iter().map(index_fn).collect()` -/
  idxTree : SplitTree
  /-- `min_by` / `max_by` of the indices (`rayon::join`) -/
  minTree : SplitTree
  maxTree : SplitTree
  /-- pass number of the `while todo_split_count > 0` loop ↦ split tree of its `part_weights` fold -/
  pwTree : Nat → SplitTree
  /-- order of the stores `*part = part_id` -/
  stores : List (Nat × Nat) → List (Nat × Nat)

def HilbertSched.Valid (s : HilbertSched) : Prop := ∀ ws : List (Nat × Nat), ws.Perm (s.stores ws)

/-- `splits.binary_search_by(|split| partial_cmp(&split.position, p))`: the slot of a point
(as in `Sfc.Hilbert.partWeights`). -/
def bucketOf (positions : List Nat) (x : Nat) : Nat :=
  (bsearchBy positions.length (fun i => if positions.getD i 0 < x then .lt else .gt)).idx

/-- The only access the refinement loop of `weighted_quantiles` has to points and weights:
pass number, current split positions ↦ per-part weights (integer weights). -/
def pwOracle (pwTree : Nat → SplitTree) (n : Nat) (idxs : List Nat) (ws : List Int) :
    Nat → List Nat → Option (List Int) :=
  fun pass positions => parPartWeights (bucketOf positions) n (pwTree pass) (idxs.zip ws)

/-- The stores of `partition_indexed`'s last `for_each`. -/
def hWrites (ids : List Nat) : List (Nat × Nat) := ids.zipIdx.map (fun x => (x.2, x.1))

/-- `hilbert_curve.rs: partition_indexed` under the schedule `s`.  `indexFn` is the encoder
(C08), `loop` the sequential part of `weighted_quantiles`' refinement – ANY function of the
extreme indices and of the part-weight oracle (the real loop is one: everything it does
between two `part_weights` folds is sequential code on `splits` and `part_weights`); the
final sort and the lookup are `Sfc.Hilbert.partitionIndexed`. -/
def hilbertT {P : Type} (s : HilbertSched) (indexFn : P → Nat)
    (loop : Option (Option Nat) → Option (Option Nat) → (Nat → List Nat → Option (List Int)) → List Nat)
    (pts : List P) (ws : List Int) (n : Nat) (p0 : List Nat) : List Nat :=
  let idxs := parMapCollect indexFn s.idxTree pts
  let positions := loop (parMin s.minTree idxs) (parMax s.maxTree idxs) (pwOracle s.pwTree n idxs ws)
  disjointWrites p0 (s.stores (hWrites (Hilbert.partitionIndexed idxs positions)))

/-- The sequential schedule. -/
def HilbertSched.seq : HilbertSched := ⟨.leaf, .leaf, .leaf, fun _ => .leaf, id⟩

theorem pwOracle_schedule_free (t t' : Nat → SplitTree) (n : Nat) (idxs : List Nat) (ws : List Int) :
    pwOracle t n idxs ws = pwOracle t' n idxs ws := by
  funext pass positions
  exact (hilbert_partweights_schedule_free _ n (t pass) (t' pass) _).1

theorem hWrites_targets (ids : List Nat) : (hWrites ids).map (·.1) = List.range ids.length :=
  (List.map_map ..).trans ((List.zipIdx_map_snd ..).trans List.range_eq_range'.symm)

theorem hWrites_nodup (ids : List Nat) : ((hWrites ids).map (·.1)).Nodup := by
  rw [hWrites_targets]
  exact List.nodup_range

theorem disjointWrites_hWrites (p0 ids : List Nat) (h : p0.length = ids.length) :
    disjointWrites p0 (hWrites ids) = ids := by
  apply List.ext_getElem?
  intro i
  by_cases hi : i < ids.length
  · rw [disjointWrites_get_of_mem (hWrites ids) i ids[i] p0 (hWrites_nodup ids) ?_ (by omega)]
    · simp [hi]
    · simp only [hWrites, List.mem_map, Prod.mk.injEq, Prod.exists, List.mem_zipIdx_iff_getElem?]
      exact ⟨ids[i], i, by simp [hi], rfl, rfl⟩
  · rw [List.getElem?_eq_none (by rw [disjointWrites_length]; omega), List.getElem?_eq_none (by omega)]

end Coupe.ParAlgos
