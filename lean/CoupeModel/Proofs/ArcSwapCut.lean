import CoupeModel.Model.ArcSwap
import CoupeModel.Proofs.Basic
import Mathlib.Tactic.SplitIfs

/-!
# ArcSwap: the edge cut and the effect of one move

`cut g p` is `Topology::edge_cut` (generic definition: every stored entry `(v, u, w)`
with `u < v` and `p v ≠ p u` counts `w`).  On a symmetric graph without self-loops,
relabelling one vertex `x` from `ip` to `tgt ≠ ip` changes the cut by exactly minus the
gain ArcSwap computes from the row of `x` (`cut_set`).  The proof goes through `two_cut`: by
symmetry, twice the cut is the sum over ALL entries whose end points are in different parts,
and an entry's share of that sum changes only if it lies in row `x` or in column `x`.
-/

namespace Coupe.ArcSwap

/-- All stored entries as `(row, column, weight)`. -/
def edges (g : Graph) : List (Nat × Nat × Int) :=
  g.zipIdx.flatMap fun x => x.1.map fun e => (x.2, e.1, e.2)

def swapE (e : Nat × Nat × Int) : Nat × Nat × Int := (e.2.1, e.1, e.2.2)

/-- The matrix is symmetric: the multiset of entries is closed under transposition. -/
def Sym (g : Graph) : Prop := ((edges g).map swapE).Perm (edges g)

/-- No diagonal entry. -/
def NoLoop (g : Graph) : Prop := ∀ e ∈ edges g, e.1 ≠ e.2.1

/-- `Topology::edge_cut`, one row. -/
def rowCut (p : List Nat) (v : Nat) (row : List (Nat × Int)) : Int :=
  ((row.filter fun e => p.getD v 0 != p.getD e.1 0 && decide (e.1 < v)).map (·.2)).sum

/-- `Topology::edge_cut` (generic method). -/
def cut (g : Graph) (p : List Nat) : Int := (g.zipIdx.map fun x => rowCut p x.2 x.1).sum

/-- The gain ArcSwap computes for moving `v` from `ip` to `tgt`. -/
def gainOf (g : Graph) (p : List Nat) (v ip tgt : Nat) : Int :=
  ((adj g v).map fun e => contrib ip tgt (p.getD e.1 0) e.2).sum

theorem sum_flatMap {α} (l : List α) (f : α → List Int) :
    (l.flatMap f).sum = (l.map fun a => (f a).sum).sum := by
  induction l with
  | nil => rfl
  | cons a l ih => simp [List.flatMap_cons, List.sum_append, ih]

theorem sum_map_neg {α} (l : List α) (f : α → Int) : (l.map fun a => -f a).sum = -(l.map f).sum := by
  induction l with
  | nil => rfl
  | cons a l ih => simp only [List.map_cons, List.sum_cons, ih]; omega

def S (g : Graph) (F : Nat × Nat × Int → Int) : Int := ((edges g).map F).sum

theorem S_swap {g : Graph} (hs : Sym g) (F : Nat × Nat × Int → Int) : S g (fun e => F (swapE e)) = S g F := by
  unfold S
  have := perm_sum (hs.map F)
  rw [List.map_map] at this
  exact this

theorem S_add (g : Graph) (F G : Nat × Nat × Int → Int) : S g (fun e => F e + G e) = S g F + S g G :=
  sum_map_add _ _ _

theorem S_congr (g : Graph) (F G : Nat × Nat × Int → Int) (h : ∀ e ∈ edges g, F e = G e) : S g F = S g G :=
  congrArg List.sum (List.map_congr_left h)

theorem S_rows (g : Graph) (F : Nat × Nat × Int → Int) :
    S g F = (g.zipIdx.map fun x => (x.1.map fun e => F (x.2, e.1, e.2)).sum).sum := by
  unfold S edges
  rw [List.map_flatMap, sum_flatMap]
  simp only [List.map_map]
  rfl

theorem cut_eq_S (g : Graph) (p : List Nat) :
    cut g p = S g fun e => if p.getD e.1 0 != p.getD e.2.1 0 && decide (e.2.1 < e.1) then e.2.2 else 0 := by
  rw [S_rows]
  unfold cut rowCut
  congr 1
  apply List.map_congr_left
  intro x _
  rw [filter_map_sum]

theorem S_row (g : Graph) (x : Nat) (G : Nat × Int → Int) :
    (S g fun e => if e.1 = x then G e.2 else 0) = ((adj g x).map G).sum := by
  rw [S_rows, zipIdx_eq_map_range g [], List.map_map]
  have hrow : ∀ i ∈ List.range g.length,
      ((adj g i).map fun e => if i = x then G e else 0).sum = if x = i then ((adj g i).map G).sum else 0 := by
    intro i _
    by_cases h : x = i
    · simp only [h, if_true]
    · rw [if_neg h]; exact sum_map_zero _ _ fun _ _ => if_neg (Ne.symm h)
  refine (congrArg List.sum (List.map_congr_left hrow)).trans ?_
  by_cases hx : x < g.length
  · exact sum_range_ite _ _ _ hx
  · rw [sum_map_zero _ _ fun i hi => if_neg (by rw [List.mem_range] at hi; omega), adj,
      List.getD_eq_getElem?_getD, List.getElem?_eq_none (Nat.le_of_not_lt hx)]
    rfl

theorem getD_set_eq (p : List Nat) (x t y : Nat) (hx : x < p.length) :
    (p.set x t).getD y 0 = if y = x then t else p.getD y 0 := by
  split_ifs with h
  · rw [h, getD_set_self _ _ _ _ hx]
  · rw [getD_set_ne _ _ _ _ _ (Ne.symm h)]

theorem two_cut_edge (a b v u : Nat) (w : Int) (h : u = v → a = b) :
    ((if (a != b && decide (u < v)) = true then w else 0) +
      if (b != a && decide (v < u)) = true then w else 0) = if (a != b) = true then w else 0 := by
  by_cases hab : a = b
  · simp [hab]
  · have hne : u ≠ v := fun e => hab (h e)
    have hba : ¬ b = a := fun e => hab e.symm
    rcases Nat.lt_or_gt_of_ne hne with h1 | h1 <;> simp [hab, hba, h1, Nat.lt_asymm h1]

/-- Relabelling one end point of an entry from `ip` to `tgt`: the entry's share of the cut
changes by minus its term of the gain sum. -/
theorem move_edge (ip tgt b : Nat) (w : Int) (hne : tgt ≠ ip) :
    (if tgt != b then w else 0) = (if ip != b then w else 0) - contrib ip tgt b w := by
  unfold contrib
  by_cases h1 : b = ip
  · simp [h1, hne]
  · by_cases h2 : b = tgt
    · simp [h2, hne, Ne.symm hne]
    · simp [h1, h2, Ne.symm h1, Ne.symm h2]

theorem two_cut {g : Graph} (hs : Sym g) (p : List Nat) :
    2 * cut g p = S g fun e => if p.getD e.1 0 != p.getD e.2.1 0 then e.2.2 else 0 := by
  rw [Int.two_mul]
  conv => lhs; rhs; rw [cut_eq_S, ← S_swap hs]
  rw [cut_eq_S, ← S_add]
  apply S_congr
  intro e _
  obtain ⟨v, u, w⟩ := e
  simp only [swapE]
  exact two_cut_edge _ _ v u w (fun h => by rw [h])

theorem cut_set {g : Graph} (hs : Sym g) (hl : NoLoop g) (p : List Nat) {x ip tgt : Nat}
    (hx : x < p.length) (hip : p.getD x 0 = ip) (hne : tgt ≠ ip) :
    cut g (p.set x tgt) = cut g p - gainOf g p x ip tgt := by
  -- `A e`: the term of the gain sum that entry `e` contributes if it lies in row `x`
  let A : Nat × Nat × Int → Int := fun e => if e.1 = x then contrib ip tgt (p.getD e.2.1 0) e.2.2 else 0
  have hA : S g A = gainOf g p x ip tgt := by
    unfold gainOf
    exact S_row g x fun r => contrib ip tgt (p.getD r.1 0) r.2
  have hA' : S g (fun e => A (swapE e)) = gainOf g p x ip tgt := by rw [S_swap hs, hA]
  have hD : (S g fun e => if (p.set x tgt).getD e.1 0 != (p.set x tgt).getD e.2.1 0 then e.2.2 else 0) =
      S g fun e => (if p.getD e.1 0 != p.getD e.2.1 0 then e.2.2 else 0) + (-(A e) + -(A (swapE e))) := by
    apply S_congr
    intro e he
    have hloop := hl e he
    obtain ⟨v, u, w⟩ := e
    simp only at hloop
    simp only [getD_set_eq p x tgt _ hx, A, swapE]
    by_cases hv : v = x
    · have hu : ¬ u = x := fun h => hloop (hv.trans h.symm)
      subst hv
      simp only [hu, if_true, if_false, hip]
      rw [move_edge ip tgt _ w hne]
      omega
    · by_cases hu : u = x
      · subst hu
        simp only [hv, if_true, if_false, hip]
        rw [bne_comm, move_edge ip tgt _ w hne, bne_comm (a := p.getD v 0)]
        omega
      · simp only [hv, hu, if_false]
        omega
  have h1 := two_cut hs (p.set x tgt)
  rw [hD, S_add, S_add, ← two_cut hs p] at h1
  have e1 : (S g fun e => -(A e)) = -S g A := sum_map_neg _ _
  have e2 : (S g fun e => -(A (swapE e))) = -S g (fun e => A (swapE e)) := sum_map_neg _ _
  rw [e1, e2, hA, hA'] at h1
  omega

end Coupe.ArcSwap
