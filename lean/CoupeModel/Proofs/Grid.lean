import CoupeModel.Model.Grid
import CoupeModel.Proofs.Metrics

/-!
# Lemmas about `Model/Grid.lean`

A grid of width `w` is one axis of `w` cells times the grid of the remaining
axes: `indexOf2 w (x, r)` is cell `x` of row `r`, whatever `r` indexes.  Every
3-D fact is the 2-D one applied to `(x, indexOf2 h (y, z))`.
-/

namespace Coupe.Grid
open Coupe.Metrics

theorem div_lt_iff {w : Nat} (hw : 0 < w) (i h : Nat) : i / w < h ↔ i < w * h := by
  rw [Nat.div_lt_iff_lt_mul hw, Nat.mul_comm]

theorem indexOf2_positionOf2 (w i : Nat) : indexOf2 w (positionOf2 w i) = i :=
  Nat.mod_add_div i w

theorem positionOf2_indexOf2 {w x : Nat} (hx : x < w) (r : Nat) :
    positionOf2 w (indexOf2 w (x, r)) = (x, r) := by
  have hw : 0 < w := by omega
  show ((x + w * r) % w, (x + w * r) / w) = (x, r)
  rw [Nat.add_mul_mod_self_left, Nat.mod_eq_of_lt hx, Nat.add_mul_div_left _ _ hw,
    Nat.div_eq_of_lt hx, Nat.zero_add]

theorem positionOf2_inj {w a b : Nat} : positionOf2 w a = positionOf2 w b ↔ a = b :=
  ⟨fun e => by rw [← indexOf2_positionOf2 w a, e, indexOf2_positionOf2], fun e => e ▸ rfl⟩

theorem indexOf2_eq_iff {w x x' : Nat} (hx : x < w) (hx' : x' < w) (r r' : Nat) :
    indexOf2 w (x, r) = indexOf2 w (x', r') ↔ x = x' ∧ r = r' := by
  rw [← positionOf2_inj (w := w), positionOf2_indexOf2 hx, positionOf2_indexOf2 hx', Prod.mk.injEq]

theorem indexOf2_lt (w h x y : Nat) (hx : x < w) (hy : y < h) : indexOf2 w (x, y) < w * h := by
  calc x + w * y < w + w * y := by omega
    _ = w * (y + 1) := by rw [Nat.mul_succ]; omega
    _ ≤ w * h := Nat.mul_le_mul_left w hy

theorem positionOf3_eq (w h i : Nat) :
    positionOf3 w h i = (i % w, positionOf2 h (i / w)) := rfl

theorem indexOf3_eq (w h x : Nat) (q : Nat × Nat) :
    indexOf3 w h (x, q) = indexOf2 w (x, indexOf2 h q) := rfl

theorem dist2_comm (a b : Nat × Nat) : dist2 a b = dist2 b a := by
  unfold dist2; omega

theorem dist3_comm (a b : Nat × Nat × Nat) : dist3 a b = dist3 b a := by
  unfold dist3; omega

theorem dist1_eq_zero {a b : Nat} : (a - b) + (b - a) = 0 ↔ a = b := by omega

theorem dist2_eq_zero {a b : Nat × Nat} : dist2 a b = 0 ↔ a = b := by
  rw [dist2, Nat.add_eq_zero_iff, dist1_eq_zero, dist1_eq_zero, Prod.ext_iff]

theorem dist3_cons (x x' : Nat) (q q' : Nat × Nat) :
    dist3 (x, q) (x', q') = (x - x') + (x' - x) + dist2 q q' :=
  Nat.add_assoc _ _ _

theorem newCoord_minus (c size v : Nat) :
    newCoord c size false = some v ↔ v + 1 = c ∧ v < size := by
  simp only [newCoord, Bool.false_eq_true, if_false, Option.ite_none_left_eq_some,
    Option.ite_none_right_eq_some, Option.some.injEq]
  omega

theorem newCoord_plus (c size v : Nat) :
    newCoord c size true = some v ↔ v = c + 1 ∧ v < size := by
  simp only [newCoord, if_true, Option.ite_none_right_eq_some, Option.some.injEq]
  omega

/-- The cells one step from cell `c` on an axis of `n` cells, as the iterator
yields them. -/
def axisNeighbors (n c : Nat) : List Nat :=
  [newCoord c n false, newCoord c n true].filterMap id

theorem mem_axisNeighbors {n c v : Nat} :
    v ∈ axisNeighbors n c ↔ v < n ∧ (c - v) + (v - c) = 1 := by
  simp only [axisNeighbors, List.mem_filterMap, List.mem_cons, List.not_mem_nil, or_false, id_eq,
    exists_eq_or_imp, exists_eq_left, newCoord_minus, newCoord_plus]
  omega

theorem axisNeighbors_lt {n c v : Nat} (hv : v ∈ axisNeighbors n c) : v < n :=
  (mem_axisNeighbors.mp hv).1

theorem not_mem_axisNeighbors_self (n c : Nat) : c ∉ axisNeighbors n c :=
  fun h => by have := (mem_axisNeighbors.mp h).2; omega

theorem axisNeighbors_nodup (n c : Nat) : (axisNeighbors n c).Nodup :=
  List.Pairwise.filterMap id (fun _ _ h => h) <| List.pairwise_pair.mpr fun u hu v hv => by
    rw [id, newCoord_minus] at hu
    rw [id, newCoord_plus] at hv
    omega

/-! From cell `x` of row `r` the iterator moves along the row, then to cell `x` of
the neighbouring rows. -/

theorem mem_moves {w x r j : Nat} {xs rs : List Nat} (hx : x < w) (hxs : ∀ v ∈ xs, v < w) :
    j ∈ xs.map (fun v => indexOf2 w (v, r)) ++ rs.map (fun s => indexOf2 w (x, s)) ↔
      (j % w ∈ xs ∧ j / w = r) ∨ (j % w = x ∧ j / w ∈ rs) := by
  simp only [List.mem_append, List.mem_map]
  constructor
  · rintro (⟨v, hv, rfl⟩ | ⟨s, hs, rfl⟩)
    · obtain ⟨e1, e2⟩ := Prod.mk.inj (positionOf2_indexOf2 (hxs v hv) r)
      exact Or.inl ⟨e1.symm ▸ hv, e2⟩
    · obtain ⟨e1, e2⟩ := Prod.mk.inj (positionOf2_indexOf2 hx s)
      exact Or.inr ⟨e1, e2.symm ▸ hs⟩
  · rintro (⟨hv, rfl⟩ | ⟨rfl, hs⟩)
    · exact Or.inl ⟨_, hv, indexOf2_positionOf2 w j⟩
    · exact Or.inr ⟨_, hs, indexOf2_positionOf2 w j⟩

theorem nodup_moves {w x r : Nat} {xs rs : List Nat} (hx : x < w) (hxs : ∀ v ∈ xs, v < w)
    (hxn : xs.Nodup) (hrn : rs.Nodup) (hne : x ∉ xs) :
    (xs.map (fun v => indexOf2 w (v, r)) ++ rs.map (fun s => indexOf2 w (x, s))).Nodup := by
  refine List.nodup_append.mpr ⟨hxn.map_on ?_, hrn.map_on ?_, ?_⟩
  · exact fun v hv v' hv' e => ((indexOf2_eq_iff (hxs v hv) (hxs v' hv') r r).mp e).1
  · exact fun s _ s' _ e => ((indexOf2_eq_iff hx hx s s').mp e).2
  · simp only [List.mem_map]
    rintro _ ⟨v, hv, rfl⟩ _ ⟨s, -, rfl⟩ e
    exact hne (((indexOf2_eq_iff (hxs v hv) hx r s).mp e).1 ▸ hv)

/-- The two turns of the iterator's loop that move along one axis. -/
theorem filterMap_id_axis (f : Nat → Nat) (n c : Nat) (l : List (Option Nat)) :
    ((newCoord c n false).map f :: (newCoord c n true).map f :: l).filterMap id =
      (axisNeighbors n c).map f ++ l.filterMap id := by
  unfold axisNeighbors
  cases newCoord c n false <;> cases newCoord c n true <;> rfl

theorem neighbors2_eq (w h i : Nat) :
    neighbors2 w h i =
      (axisNeighbors w (i % w)).map (fun v => indexOf2 w (v, i / w)) ++
      (axisNeighbors h (i / w)).map (fun s => indexOf2 w (i % w, s)) := by
  simp only [neighbors2, filterMap_id_axis, List.filterMap_nil, List.append_nil]
  rfl

theorem neighbors3_eq (w h d i : Nat) :
    neighbors3 w h d i =
      (axisNeighbors w (i % w)).map (fun v => indexOf2 w (v, i / w)) ++
      (neighbors2 h d (i / w)).map (fun s => indexOf2 w (i % w, s)) := by
  have e : neighbors3 w h d i =
      (axisNeighbors w (i % w)).map (fun v => indexOf2 w (v, indexOf2 h (positionOf2 h (i / w)))) ++
      (neighbors2 h d (i / w)).map (fun s => indexOf2 w (i % w, s)) := by
    simp only [neighbors3, neighbors2_eq, filterMap_id_axis, List.filterMap_nil, List.append_nil,
      List.map_append, List.map_map]
    rfl
  rwa [indexOf2_positionOf2] at e

/-- One step from `(a, r)` to `(a', r')`, at distances `k` along the axis and
`m` between the rows: a step within the row, or a step between rows. -/
theorem step_iff {a a' w r r' n k m : Nat} (ha : a' < w) (hr : r < n)
    (hk : k = 0 ↔ a = a') (hm : m = 0 ↔ r = r') :
    ((a' < w ∧ k = 1) ∧ r' = r) ∨ (a' = a ∧ r' < n ∧ m = 1) ↔ r' < n ∧ k + m = 1 := by
  rw [Nat.add_eq_one_iff, hk, hm]
  constructor
  · rintro (⟨⟨-, hd⟩, rfl⟩ | ⟨rfl, hr', hm1⟩)
    · exact ⟨hr, Or.inr ⟨hd, rfl⟩⟩
    · exact ⟨hr', Or.inl ⟨rfl, hm1⟩⟩
  · rintro ⟨hr', ⟨rfl, hm1⟩ | ⟨hd, rfl⟩⟩
    · exact Or.inr ⟨rfl, hr', hm1⟩
    · exact Or.inl ⟨⟨ha, hd⟩, rfl⟩

theorem mem_neighbors2 {w h i j : Nat} (hw : 0 < w) (hi : i < w * h) :
    j ∈ neighbors2 w h i ↔ j < w * h ∧ dist2 (positionOf2 w i) (positionOf2 w j) = 1 := by
  rw [neighbors2_eq, mem_moves (Nat.mod_lt i hw) fun _ => axisNeighbors_lt, mem_axisNeighbors,
    mem_axisNeighbors, ← div_lt_iff hw]
  -- `dist2 (positionOf2 w i) (positionOf2 w j)` unfolds to the sum of the two axis distances
  exact step_iff (Nat.mod_lt j hw) ((div_lt_iff hw i h).mpr hi) dist1_eq_zero dist1_eq_zero

theorem mem_neighbors3 {w h d i j : Nat} (hw : 0 < w) (hh : 0 < h) (hi : i < w * h * d) :
    j ∈ neighbors3 w h d i ↔
      j < w * h * d ∧ dist3 (positionOf3 w h i) (positionOf3 w h j) = 1 := by
  rw [Nat.mul_assoc] at hi ⊢
  have hr := (div_lt_iff hw i _).mpr hi
  rw [neighbors3_eq, mem_moves (Nat.mod_lt i hw) fun _ => axisNeighbors_lt, mem_axisNeighbors,
    mem_neighbors2 hh hr, ← div_lt_iff hw, positionOf3_eq, positionOf3_eq, dist3_cons]
  exact step_iff (Nat.mod_lt j hw) hr dist1_eq_zero (dist2_eq_zero.trans positionOf2_inj)

theorem neighbors2_nodup (w h i : Nat) (hw : 0 < w) : (neighbors2 w h i).Nodup := by
  rw [neighbors2_eq]
  exact nodup_moves (Nat.mod_lt i hw) (fun _ => axisNeighbors_lt) (axisNeighbors_nodup _ _)
    (axisNeighbors_nodup _ _) (not_mem_axisNeighbors_self _ _)

theorem neighbors3_nodup (w h d i : Nat) (hw : 0 < w) (hh : 0 < h) :
    (neighbors3 w h d i).Nodup := by
  rw [neighbors3_eq]
  exact nodup_moves (Nat.mod_lt i hw) (fun _ => axisNeighbors_lt) (axisNeighbors_nodup _ _)
    (neighbors2_nodup h d _ hh) (not_mem_axisNeighbors_self _ _)

theorem latticeRows_perm (t : Topo) (v : Nat) : (latticeRows t v).Perm (t.nbrs v) :=
  List.mergeSort_perm _ _

theorem latticeRows_sorted (t : Topo) (v : Nat) :
    (latticeRows t v).Pairwise (fun a b => a.1 ≤ b.1) := by
  have := List.pairwise_mergeSort (le := fun a b : Nat × Int => decide (a.1 ≤ b.1))
    (fun a b c h1 h2 => by simp only [decide_eq_true_eq] at *; omega)
    (fun a b => by simp only [Bool.or_eq_true, decide_eq_true_eq]; omega) (t.nbrs v)
  simpa [latticeRows] using this

end Coupe.Grid
