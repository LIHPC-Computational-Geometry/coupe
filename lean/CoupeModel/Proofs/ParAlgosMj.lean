import CoupeModel.Model.Par
import CoupeModel.Model.MultiJagged
import CoupeModel.Proofs.Par
import CoupeModel.Proofs.MultiJagged
import CoupeModel.Props.C06
import CoupeModel.Props.C11

/-!
# MultiJagged under every schedule

The hierarchy of slabs does not depend on how rayon cuts the block scans
(`split_chunk_free` at every node, by induction over the scheme); the ids are
then the `fetch_add` numbers of the leaves, a renaming of the depth-first leaf
numbers (`fetchAdd_renaming`), written to distinct cells.
-/

namespace Coupe.ParAlgos

open Coupe.Par

section mj
open Coupe.MultiJagged

/-- Everything rayon decides during one call of `multi_jagged`. -/
structure MjSched where
  /-- block lengths of the `fold_with` over a slab of the given length
  (`compute_split_positions`; the model's `chunk` parameter) -/
  chunk : Nat → List Nat
  /-- the leaves (depth-first numbers) in the order their `fetch_add` takes effect -/
  arrival : List Nat
  /-- the order in which the leaves' stores take effect -/
  stores : List (Nat × Nat) → List (Nat × Nat)

def MjSched.Valid (s : MjSched) (numParts : Nat) : Prop :=
  ChunkOk s.chunk ∧ s.arrival.Perm (List.range numParts) ∧ ∀ ws : List (Nat × Nat), ws.Perm (s.stores ws)

/-- `multi_jagged.rs: multi_jagged` under the schedule `s`: the hierarchy of `MultiJagged.run`
with the schedule's chunking, then the leaf writes of `Par.mjAssign` (`fetch_add` numbers in
arrival order, stores in the schedule's order). -/
def mjIdsT (s : MjSched) (root : Nat → Nat → Nat) (sort : (Nat → Int) → List Nat → List Nat)
    (dim : Nat) (key : Nat → Nat → Int) (ws : List Nat) (n numParts maxIter : Nat) (p0 : List Nat) :
    Option (List Nat) :=
  (MultiJagged.run {} root sort s.chunk dim key ws n numParts maxIter).map
    (fun h => Par.mjAssign p0 h.leaves s.arrival s.stores)

theorem recurseList_congr (sort : (Nat → Int) → List Nat → List Nat) (c1 c2 : Nat → List Nat)
    (dim : Nat) (key : Nat → Nat → Int) (ws : List Nat) (coord : Nat) :
    ∀ (cs : List Scheme) (subs : List (List Nat)),
      (∀ c ∈ cs, ∀ p ∈ subs, MultiJagged.recurse {} sort c1 dim key ws c coord p =
        MultiJagged.recurse {} sort c2 dim key ws c coord p) →
      recurseList {} sort c1 dim key ws cs coord subs = recurseList {} sort c2 dim key ws cs coord subs
  | [], _, _ => by simp [recurseList]
  | _ :: _, [], _ => by simp [recurseList]
  | c :: cs, p :: ps, h => by
    rw [recurseList, recurseList, h c (by simp) p (by simp), recurseList_congr sort c1 c2 dim key ws
      coord cs ps (fun c' hc' p' hp' => h c' (by simp [hc']) p' (by simp [hp']))]

theorem splitManyAux_flatten {α} : ∀ (ps : List Nat) (rest : List α) (drained : Nat)
    (subs : List (List α)), splitManyAux rest drained ps = some subs → subs.flatten = rest
  | [], _, _, _, h => by simp only [splitManyAux, Option.some.injEq] at h; simp [← h]
  | p :: ps, rest, drained, subs, h => by
    simp only [splitManyAux] at h
    split at h
    · cases h
    split at h
    · cases h
    split at h
    · cases h
    · next subs' hs =>
      cases h
      simp [splitManyAux_flatten ps _ _ _ hs]

theorem recurse_chunk_free {sort : (Nat → Int) → List Nat → List Nat} (hsort : SortOk sort)
    {c1 c2 : Nat → List Nat} (h1 : ChunkOk c1) (h2 : ChunkOk c2)
    (dim : Nat) (key : Nat → Nat → Int) (ws : List Nat) :
    ∀ (s : Scheme) (coord : Nat) (perm : List Nat), (∀ i ∈ perm, i < ws.length) →
      MultiJagged.recurse {} sort c1 dim key ws s coord perm =
        MultiJagged.recurse {} sort c2 dim key ws s coord perm := by
  intro s
  refine Scheme.induct (P := fun s => ∀ (coord : Nat) (perm : List Nat), (∀ i ∈ perm, i < ws.length) →
      MultiJagged.recurse {} sort c1 dim key ws s coord perm =
        MultiJagged.recurse {} sort c2 dim key ws s coord perm) ?_ s
  · intro k mods den next ih coord perm hp
    cases k with
    | zero => simp [MultiJagged.recurse]
    | succ k =>
      have hp' : ∀ i ∈ sort (key coord) perm, i < ws.length :=
        fun i hi => hp i ((hsort.perm _ _).mem_iff.1 hi)
      have e := split_chunk_free (c1 (sort (key coord) perm).length) (c2 (sort (key coord) perm).length)
        ws _ mods den hp' (h1 _) (h2 _)
      cases next with
      | none => simp only [MultiJagged.recurse, e]
      | some cs =>
        simp only [MultiJagged.recurse, e]
        generalize splitPositions {} _ ws _ mods den = sp
        cases sp with
        | none => rfl
        | some pos =>
          simp only
          generalize hsm : splitMany (sort (key coord) perm) pos = sm
          cases sm with
          | none => rfl
          | some subs =>
            simp only
            congr 1
            refine recurseList_congr _ _ _ _ _ _ _ _ _ fun c hc p hpm => ih cs rfl c hc _ _ fun i hi => ?_
            -- the sub-slabs are pieces of the sorted slab
            rw [← splitManyAux_flatten _ _ _ _ hsm] at hp'
            exact hp' i (List.mem_flatten.2 ⟨p, hpm, hi⟩)

theorem mjAssign_length (p0 : List Nat) (leaves : List (List Nat)) (arrival : List Nat)
    (sched : List (Nat × Nat) → List (Nat × Nat)) :
    (Par.mjAssign p0 leaves arrival sched).length = p0.length := by
  simp [Par.mjAssign, disjointWrites_length]

end mj

end Coupe.ParAlgos
