import CoupeModel.Proofs.CodecMedit

/-!
# Lemmas for C19: MEDIT ASCII, token level (writer → parser)

Same plan as for the binary format (`CodecMedit`): rows of a section by induction over the
chunks, one pass of the section loop `asciiLoop` per section, the two header lines.  The
stream is a list of lines; where the parser has consumed a whole line an empty line stays
at the head of the stream (`asciiLoop_skip`).
-/

namespace Coupe.Codec

/-- a finite `f64` bit pattern (exponent field not all ones). -/
def FiniteBits (x : Nat) : Prop := x < 18446744073709551616 ∧ x / 4503599627370496 % 2048 ≠ 2047

instance (x : Nat) : Decidable (FiniteBits x) :=
  inferInstanceAs (Decidable (x < 18446744073709551616 ∧ x / 4503599627370496 % 2048 ≠ 2047))

/-- The trusted contract of Rust's `Display`/`FromStr` for `usize`, `isize` and
finite `f64`: parsing what was displayed gives the value back (decimal digit
strings are not changed by `make_ascii_lowercase`). -/
structure NumFmtOK (F : NumFmt) : Prop where
  uT : ∀ n, n < 18446744073709551616 → F.parseUT (F.showU n) = some n
  u : ∀ n, n < 18446744073709551616 → F.parseU (F.showU n) = some n
  i : ∀ i, InI64 i → F.parseI (F.showI i) = some i
  f : ∀ x, FiniteBits x → F.parseF (F.showF x) = some x
  two : ∃ v, F.parseUT two = some v

theorem takeFloats_enc (F : NumFmt) (ok : NumFmtOK F) (cs : List Nat) (rest : List Tok)
    (h : ∀ x ∈ cs, FiniteBits x) :
    takeFloats F cs.length (cs.map (fun c => Tok.raw (F.showF c)) ++ rest) = .ok (cs, rest) := by
  induction cs with
  | nil => rfl
  | cons a as ih =>
    obtain ⟨ha, has⟩ := List.forall_mem_cons.mp h
    simp only [List.map_cons, List.cons_append, List.length_cons, takeFloats, NumFmt.tokF,
      ok.f a ha, ih has]

theorem takeNodes_enc (F : NumFmt) (ok : NumFmtOK F) (ns : List Nat) (rest : List Tok)
    (h : ∀ n ∈ ns, n + 1 < 2 ^ 64) :
    takeNodes F ns.length (ns.map (fun n => Tok.raw (F.showU (n + 1))) ++ rest) = .ok (ns, rest) := by
  induction ns with
  | nil => rfl
  | cons a as ih =>
    obtain ⟨ha, has⟩ := List.forall_mem_cons.mp h
    simp only [List.map_cons, List.cons_append, List.length_cons, takeNodes, NumFmt.tokU,
      ok.u (a + 1) ha, ih has]

theorem vertLines_chunk (F : NumFmt) {d : Nat} {c : List Nat} (hc : c.length = d) (cs : List Nat)
    (r : Int) (rs : List Int) :
    vertLines F d (c ++ cs) (r :: rs)
      = (c.map (fun c => Tok.raw (F.showF c)) ++ [Tok.raw (F.showI r)]) :: vertLines F d cs rs := by
  rw [vertLines, if_neg (by rw [List.length_append]; omega), List.take_left' hc, List.drop_left' hc]

theorem elemLines_chunk (F : NumFmt) {k : Nat} {c : List Nat} (hc : c.length = k) (hk : 1 ≤ k)
    (cs : List Nat) (r : Int) (rs : List Int) :
    elemLines F k (c ++ cs) (r :: rs)
      = (c.map (fun n => Tok.raw (F.showU (n + 1))) ++ [Tok.raw (F.showI r)])
          :: elemLines F k cs rs := by
  have hne : c ++ cs ≠ [] := fun h => by rw [← hc, (List.append_eq_nil_iff.mp h).1] at hk; cases hk
  rw [elemLines, if_neg hne, List.take_left' hc, List.drop_left' hc]

theorem readL_ne (line : List Tok) (ls : Lines) (h : line ≠ []) :
    readL (line :: ls) = some (line, ls) := by
  cases line with
  | nil => exact absurd rfl h
  | cons t ts => rfl

theorem readVertsA_enc (F : NumFmt) (ok : NumFmtOK F) (d : Nat) :
    ∀ (rs : List Int) (cs : List Nat), cs.length = d * rs.length →
    (∀ x ∈ cs, FiniteBits x) → (∀ r ∈ rs, InI64 r) → ∀ s : Lines,
    readVertsA F d rs.length (vertLines F d cs rs ++ s) = .ok (cs, rs, s) := by
  refine chunks_induction d (fun _ => rfl) fun c cs r rs hd hc hr ih s => ?_
  subst hd
  simp only [vertLines_chunk F rfl, List.cons_append, List.length_cons, readVertsA,
    readL_ne _ _ (List.append_ne_nil_of_right_ne_nil _ (List.cons_ne_nil _ _)),
    takeFloats_enc F ok c _ hc, optRef, NumFmt.tokI, ok.i r hr, ne_eq, not_true_eq_false,
    if_false, ih s, List.nil_append]

theorem readElemsA_enc (F : NumFmt) (ok : NumFmtOK F) (k : Nat) (hk : 1 ≤ k) :
    ∀ (rs : List Int) (ns : List Nat), ns.length = k * rs.length →
    (∀ n ∈ ns, n + 1 < 2 ^ 64) → (∀ r ∈ rs, InI64 r) → ∀ s : Lines,
    readElemsA F k rs.length (elemLines F k ns rs ++ s) = .ok (ns, rs, s) := by
  refine chunks_induction k (fun _ => rfl) fun c ns r rs hd hc hr ih s => ?_
  subst hd
  simp only [elemLines_chunk F rfl hk, List.cons_append, List.length_cons, readElemsA,
    readL_ne _ _ (List.append_ne_nil_of_right_ne_nil _ (List.cons_ne_nil _ _)),
    takeNodes_enc F ok c _ hc, optRef, NumFmt.tokI, ok.i r hr, ih s, List.nil_append]

theorem asciiLoop_skip (F : NumFmt) (fuel : Nat) (s : Lines) (m : Mesh) :
    asciiLoop F fuel ([] :: s) m = asciiLoop F fuel s m := by
  cases fuel with
  | zero => rfl
  | succ f =>
    rw [asciiLoop, asciiLoop, readT]
    -- both sides now match on `readT s`; only the newline flag differs, and it is not used
    cases readT s with
    | none => rfl
    | some x =>
      obtain ⟨t, c, s'⟩ := x
      cases t with
      | kw k => cases k <;> rfl
      | raw _ => rfl

/-- After the count token the reader sits on the (empty) rest of its line; with no rows to
read that empty line stays in the stream, which the section loop does not see. -/
theorem readVertsA_enc' (F : NumFmt) (ok : NumFmtOK F) (d : Nat) (rs : List Int)
    (cs : List Nat) (s : Lines)
    (hl : cs.length = d * rs.length) (hc : ∀ x ∈ cs, FiniteBits x) (hr : ∀ r ∈ rs, InI64 r) :
    ∃ s', readVertsA F d rs.length ([] :: (vertLines F d cs rs ++ s)) = .ok (cs, rs, s') ∧
      ∀ fuel m, asciiLoop F fuel s' m = asciiLoop F fuel s m := by
  cases rs with
  | nil =>
    rw [List.eq_nil_of_length_eq_zero hl]
    exact ⟨[] :: s, rfl, fun fuel m => asciiLoop_skip F fuel s m⟩
  | cons r rs => exact ⟨s, readVertsA_enc F ok d (r :: rs) cs hl hc hr s, fun _ _ => rfl⟩

theorem readElemsA_enc' (F : NumFmt) (ok : NumFmtOK F) (k : Nat) (hk : 1 ≤ k) (rs : List Int)
    (ns : List Nat) (s : Lines)
    (hl : ns.length = k * rs.length) (hc : ∀ n ∈ ns, n + 1 < 2 ^ 64)
    (hr : ∀ r ∈ rs, InI64 r) :
    ∃ s', readElemsA F k rs.length ([] :: (elemLines F k ns rs ++ s)) = .ok (ns, rs, s') ∧
      ∀ fuel m, asciiLoop F fuel s' m = asciiLoop F fuel s m := by
  cases rs with
  | nil =>
    rw [List.eq_nil_of_length_eq_zero hl]
    exact ⟨[] :: s, rfl, fun fuel m => asciiLoop_skip F fuel s m⟩
  | cons r rs => exact ⟨s, readElemsA_enc F ok k hk (r :: rs) ns hl hc hr s, fun _ _ => rfl⟩

/-- a block as `from_raw_parts` accepts it, any element type but `Vertex`
(vertex blocks are dropped by the writer), values in `usize`/`isize` range. -/
structure GoodBlockA (b : Block) : Prop where
  ty : b.ty ≠ .vertex
  len : b.nodes.length = b.ty.nodeCount * b.refs.length
  nodes : ∀ n ∈ b.nodes, n + 1 < 18446744073709551616
  refs : ∀ r ∈ b.refs, InI64 r
  size : b.nodes.length < 1152921504606846976

theorem asciiLoop_block (F : NumFmt) (ok : NumFmtOK F) (fuel : Nat) (m : Mesh) (b : Block)
    (g : GoodBlockA b) (rest : Lines) :
    asciiLoop F (fuel + 1)
        ([Tok.kw (.elem b.ty)] :: [Tok.raw (F.showU b.refs.length)]
          :: (elemLines F b.ty.nodeCount b.nodes b.refs ++ rest)) m
      = asciiLoop F fuel rest { m with topo := m.topo ++ [b] } := by
  have hn := entries_lt (nodeCount_pos b.ty) g.len g.size
  obtain ⟨s', h3, h4⟩ := readElemsA_enc' F ok b.ty.nodeCount (nodeCount_pos _) b.refs b.nodes rest
    g.len g.nodes g.refs
  simp only [asciiLoop, readT, readCountJunk, NumFmt.tokUT, ok.uT _ (Nat.lt_trans hn (by decide)),
    mulCap_ok (Nat.mul_comm _ _ ▸ g.len ▸ g.size), capOk8 hn, not_true_eq_false, if_false, h3, h4]

theorem asciiLoop_blocks (F : NumFmt) (ok : NumFmtOK F) (blocks : List Block) :
    ∀ (fuel : Nat) (m : Mesh), blocks.length < fuel → (∀ b ∈ blocks, GoodBlockA b) →
    asciiLoop F fuel (blockLines F blocks ++ [[], [Tok.kw .end_]]) m
      = .ok { m with topo := m.topo ++ blocks } := by
  induction blocks with
  | nil =>
    intro fuel m hf _
    obtain ⟨f, rfl⟩ := Nat.exists_eq_add_one_of_ne_zero (Nat.ne_zero_of_lt hf)
    rw [List.append_nil]; rfl
  | cons b bs ih =>
    intro fuel m hf hg
    obtain ⟨f, rfl⟩ := Nat.exists_eq_add_one_of_ne_zero (Nat.ne_zero_of_lt hf)
    obtain ⟨g, hgs⟩ := List.forall_mem_cons.mp hg
    rw [blockLines, if_neg g.ty]
    simp only [List.cons_append, List.append_assoc]
    rw [asciiLoop_skip, asciiLoop_block F ok f m b g, ih f _ (Nat.lt_of_succ_lt_succ hf) hgs,
      List.append_assoc]
    rfl

theorem tokCount_cons (l : List Tok) (s : Lines) : tokCount (l :: s) = l.length + tokCount s := rfl

theorem tokCount_append (a b : Lines) : tokCount (a ++ b) = tokCount a + tokCount b := by
  simp only [tokCount, List.map_append, List.sum_append]

theorem tokCount_blockLines (F : NumFmt) (blocks : List Block) (h : ∀ b ∈ blocks, b.ty ≠ .vertex) :
    blocks.length ≤ tokCount (blockLines F blocks) := by
  induction blocks with
  | nil => exact Nat.le_refl 0
  | cons b bs ih =>
    obtain ⟨hb, hbs⟩ := List.forall_mem_cons.mp h
    have := ih hbs
    simp only [blockLines, if_neg hb, tokCount_cons, tokCount_append, List.length_cons,
      List.length_nil]
    omega

/-- a mesh as `from_raw_parts` accepts it, finite coordinates. -/
structure GoodMeshA (m : Mesh) : Prop where
  dim1 : 1 ≤ m.dim
  dim2 : m.dim < 18446744073709551616
  clen : m.coords.length = m.dim * m.nodeRefs.length
  coords : ∀ x ∈ m.coords, FiniteBits x
  nrefs : ∀ r ∈ m.nodeRefs, InI64 r
  size : m.coords.length < 1152921504606846976
  blocks : ∀ b ∈ m.topo, GoodBlockA b

theorem asciiLoop_vertices (F : NumFmt) (ok : NumFmtOK F) (fuel : Nat) (m : Mesh) (g : GoodMeshA m)
    (rest : Lines) :
    asciiLoop F (fuel + 1)
        ([Tok.kw .vertices] :: [Tok.raw (F.showU m.nodeRefs.length)]
          :: (vertLines F m.dim m.coords m.nodeRefs ++ rest)) ⟨m.dim, [], [], []⟩
      = asciiLoop F fuel rest ⟨m.dim, m.coords, m.nodeRefs, []⟩ := by
  have hn := entries_lt g.dim1 g.clen g.size
  obtain ⟨s', h3, h4⟩ := readVertsA_enc' F ok m.dim m.nodeRefs m.coords rest g.clen g.coords g.nrefs
  simp only [asciiLoop, readT, readCountT, NumFmt.tokUT, ok.uT _ (Nat.lt_trans hn (by decide)),
    mulCap_ok (g.clen ▸ g.size), capOk8 hn, not_true_eq_false, if_false, h3, h4]

theorem parseTokens_header (F : NumFmt) (ok : NumFmtOK F) (d : Nat) (hd : d < 2 ^ 64) (s : Lines) :
    parseTokens F ([Tok.kw .mvf, Tok.raw two] :: [Tok.kw .dimension, Tok.raw (F.showU d)] :: s)
      = asciiLoop F (tokCount ([] :: s) + 1) ([] :: s) ⟨d, [], [], []⟩ := by
  obtain ⟨v, hv⟩ := ok.two
  simp only [parseTokens, readT, readCountT, NumFmt.tokUT, hv, ok.uT d hd, ne_eq,
    not_true_eq_false, if_false]

end Coupe.Codec
