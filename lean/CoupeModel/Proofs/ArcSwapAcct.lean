import CoupeModel.Proofs.ArcSwapInv
import CoupeModel.Proofs.ArcSwapCut

/-!
# ArcSwap: accounting invariants

On top of `Inv1` (structure + lock protocol):
* `ReadInv`: what a task has read while holding a vertex validated still describes
  the shared partition, so the gain it is about to apply is the true cut change.  The
  acting task's own step keeps it by `TStep.read`, a step of another task by
  `nbr_stable_reach` (`readInv_frame`);
* `Inv2`: cut accounting, move accounting, load accounting and the per-thread budget.
-/

namespace Coupe.ArcSwap

theorem mem_edges {g : Graph} {a b : Nat} {w : Int} : (a, b, w) ∈ edges g ↔ (b, w) ∈ adj g a := by
  unfold edges adj
  simp only [List.mem_flatMap, List.mem_map, Prod.mk.injEq, Prod.exists]
  constructor
  · rintro ⟨row, i, hmem, b', w', hb, rfl, rfl, rfl⟩
    rw [List.mem_zipIdx_iff_getElem?] at hmem
    simp [List.getD_eq_getElem?_getD, hmem, hb]
  · intro h
    rw [List.getD_eq_getElem?_getD] at h
    cases hg : g[a]? with
    | none => rw [hg] at h; simp at h
    | some row =>
      rw [hg] at h
      exact ⟨row, a, List.mem_zipIdx_iff_getElem?.2 hg, b, w, h, rfl, rfl, rfl⟩

theorem adj_iff {g : Graph} {a b : Nat} : Adj g a b ↔ ∃ w, (b, w) ∈ adj g a := by
  constructor
  · rintro ⟨j, hj, rfl⟩
    exact ⟨_, nbr_mem hj⟩
  · rintro ⟨w, h⟩
    obtain ⟨j, hj, he⟩ := List.mem_iff_getElem.1 h
    refine ⟨j, hj, ?_⟩
    unfold nbr
    simp [List.getD_eq_getElem?_getD, List.getElem?_eq_getElem hj, he]

theorem Sym.symAdj {g : Graph} (h : Sym g) : SymAdj g := by
  intro a b hab
  obtain ⟨w, hw⟩ := adj_iff.1 hab
  have h1 : (a, b, w) ∈ edges g := mem_edges.2 hw
  have h2 : swapE (a, b, w) ∈ (edges g).map swapE := List.mem_map_of_mem h1
  have h3 := h.mem_iff.1 h2
  exact adj_iff.2 ⟨w, mem_edges.1 h3⟩

theorem forall_mem_set {α} {l : List α} {P : α → Prop} (h : ∀ x ∈ l, P x) {a : α} (ha : P a) (i : Nat) :
    ∀ x ∈ l.set i a, P x :=
  fun x hx => (List.mem_or_eq_of_mem_set hx).elim (h x) (· ▸ ha)

theorem addAt_getD (l : List Int) (i j : Nat) (d : Int) (hi : i < l.length) :
    (addAt l i d).getD j 0 = l.getD j 0 + (if i = j then d else 0) := by
  unfold addAt
  by_cases h : i = j
  · subst h; rw [getD_set_self _ _ _ _ hi, if_pos rfl]
  · rw [getD_set_ne _ _ _ _ _ h, if_neg h, Int.add_zero]

@[simp] theorem addAt_length (l : List Int) (i : Nat) (d : Int) : (addAt l i d).length = l.length := by
  simp [addAt]

theorem move_getD (pw : List Int) {ip tgt : Nat} (w : Int) (hip : ip < pw.length) (htg : tgt < pw.length) (p : Nat) :
    (addAt (addAt pw ip (-w)) tgt w).getD p 0 =
      pw.getD p 0 - (if ip = p then w else 0) + (if tgt = p then w else 0) := by
  rw [addAt_getD _ _ _ _ (by rwa [addAt_length]), addAt_getD _ _ _ _ hip]
  split_ifs <;> omega

/-- A move keeps `load − (the task's own weight)` of every part: the task's array follows the loads. -/
theorem move_load (ws : List Int) {ids : List Nat} {pw : List Int} {v ip tgt : Nat} (hv : v < ids.length)
    (hv0 : ids.getD v 0 = ip) (hip : ip < pw.length) (htg : tgt < pw.length) (p : Nat) :
    Coupe.load ws (ids.set v tgt) p - (addAt (addAt pw ip (-(ws.getD v 0))) tgt (ws.getD v 0)).getD p 0 =
      Coupe.load ws ids p - pw.getD p 0 := by
  rw [load_set _ _ _ _ _ hv, move_getD pw _ hip htg, hv0]
  omega

theorem move_le_budget {pw tmax : List Int} {ip tgt : Nat} {w : Int} (hw : 0 ≤ w) (hip : ip < pw.length)
    (htg : tgt < pw.length) (hcap : w + pw.getD tgt 0 ≤ tmax.getD tgt 0) (p : Nat) :
    (addAt (addAt pw ip (-w)) tgt w).getD p 0 ≤ max (pw.getD p 0) (tmax.getD p 0) := by
  rw [move_getD pw w hip htg]
  have h0 : 0 ≤ if ip = p then w else 0 := by split <;> omega
  by_cases e : tgt = p
  · subst e
    rw [if_pos rfl]
    exact Int.le_trans (by omega) (Int.le_max_right ..)
  · rw [if_neg e]
    exact Int.le_trans (by omega) (Int.le_max_left ..)

/-- Number of positions where two lists differ. -/
def countDiff (a b : List Nat) : Nat := ((a.zip b).filter fun x => x.1 != x.2).length

theorem countDiff_set (a b : List Nat) (v t : Nat) : countDiff (a.set v t) b ≤ countDiff a b + 1 := by
  unfold countDiff
  induction a generalizing b v with
  | nil => simp
  | cons x a ih =>
    cases b with
    | nil => simp
    | cons y b =>
      cases v with
      | zero =>
        simp only [List.set_cons_zero, List.zip_cons_cons, List.filter_cons]
        split_ifs <;> (try simp only [List.length_cons]) <;> omega
      | succ v =>
        have := ih b v
        simp only [List.set_cons_succ, List.zip_cons_cons, List.filter_cons]
        split_ifs <;> (try simp only [List.length_cons]) <;> omega

/-- The accounting fields of a task (`edge_cut_gain`, `move_count`, thread-local part
weights) change only in the step that stores a part; `pass_count` never. -/
def SameAcct (t t' : Task) : Prop :=
  t'.md.edgeCutGain = t.md.edgeCutGain ∧ t'.md.moveCount = t.md.moveCount ∧
    t'.md.passCount = t.md.passCount ∧ t'.pw = t.pw

theorem SameAcct.refl (t : Task) : SameAcct t t := ⟨rfl, rfl, rfl, rfl⟩

theorem nextScan_acct (t : Task) : SameAcct t (nextScan t) := by
  unfold nextScan; split_ifs <;> exact .refl t

theorem popCut_acct (t : Task) : SameAcct t (popCut t) := by
  unfold popCut
  split
  · exact nextScan_acct t
  · exact .refl t

theorem postNext_acct (c : Cfg) (t : Task) (mv k : Nat) : SameAcct t (postNext c t mv k) := by
  unfold postNext
  split_ifs
  · exact .refl t
  · exact popCut_acct t

theorem TStep.acct {c : Cfg} {tmax : List Int} {t t' : Task} {ev : Event} {pc : Pc}
    (hs : TStep c tmax t pc t' ev) (hev : ∀ v p, ev ≠ .partStore v p) :
    SameAcct t t' := by
  cases hs with
  | store => exact absurd rfl (hev _ _)
  | scanIsolated | scanLast => exact nextScan_acct t
  | scanCut | casFail | unlockPop => exact popCut_acct _
  | postIsolated | postGainPush | postGainSkip => exact postNext_acct ..
  | _ => exact .refl t

def partialGain (g : Graph) (p : List Nat) (v ip tgt k : Nat) : Int :=
  (((adj g v).take k).map fun e => contrib ip tgt (p.getD e.1 0) e.2).sum

def ReadInv (c : Cfg) (parts : List Nat) (tmax : List Int) (t : Task) : Prop :=
  match t.pc with
  | .gainRd v ip tgt k acc best =>
    ip = parts.getD v 0 ∧ acc = partialGain c.g parts v ip tgt k ∧
      ∀ b, best = some b → b.2 = gainOf c.g parts v ip b.1
  | .store v ip tgt gain =>
    ip = parts.getD v 0 ∧ gain = gainOf c.g parts v ip tgt ∧ 0 < gain ∧
      c.w.getD v 0 + t.pw.getD tgt 0 ≤ tmax.getD tgt 0
  | _ => True

theorem readInv_of_not_valid {c : Cfg} {parts : List Nat} {tmax : List Int} {t : Task} (h : ∀ v, t.pc.ls ≠ .valid v) : ReadInv c parts tmax t := by
  unfold ReadInv
  split
  · next hpc => exact absurd (by rw [hpc]; rfl) (h _)
  · next hpc => exact absurd (by rw [hpc]; rfl) (h _)
  · trivial

theorem readInv_free {c : Cfg} {parts : List Nat} {tmax : List Int} {t : Task} (h : t.pc.ls = .free) : ReadInv c parts tmax t :=
  readInv_of_not_valid fun v hv => by rw [h] at hv; cases hv

theorem partialGain_succ (g : Graph) (p : List Nat) (v ip tgt k : Nat) (hk : k < deg g v) :
    partialGain g p v ip tgt (k + 1) =
      partialGain g p v ip tgt k + contrib ip tgt (p.getD (nbr g v k) 0) ((adj g v).getD k (0, 0)).2 := by
  unfold partialGain nbr deg at *
  have hg : (adj g v).getD k (0, 0) = (adj g v)[k] := by
    simp [List.getD_eq_getElem?_getD, List.getElem?_eq_getElem hk]
  rw [List.take_add_one, List.map_append, List.sum_append, List.getElem?_eq_getElem hk, hg]
  simp

theorem partialGain_full (g : Graph) (p : List Nat) (v ip tgt k : Nat) (hk : deg g v ≤ k) :
    partialGain g p v ip tgt k = gainOf g p v ip tgt := by
  unfold partialGain gainOf deg at *
  rw [List.take_of_length_le hk]

theorem partialGain_last (g : Graph) (p : List Nat) (v ip tgt k : Nat) (hk : k < deg g v)
    (hlast : ¬ k + 1 < deg g v) :
    partialGain g p v ip tgt k + contrib ip tgt (p.getD (nbr g v k) 0) ((adj g v).getD k (0, 0)).2 =
      gainOf g p v ip tgt := by
  rw [← partialGain_succ _ _ _ _ _ _ hk, partialGain_full _ _ _ _ _ _ (by omega)]

theorem better_gain {g : Graph} {p : List Nat} {v ip : Nat} {best : Option (Nat × Int)} {tgt : Nat}
    (hb : ∀ b, best = some b → b.2 = gainOf g p v ip b.1) :
    (better best tgt (gainOf g p v ip tgt)).2 = gainOf g p v ip (better best tgt (gainOf g p v ip tgt)).1 := by
  unfold better
  split
  · rfl
  · next b => split_ifs
              · rfl
              · exact hb b rfl

theorem TStep.read {c : Cfg} {parts : List Nat} {locks : List Bool} {tmax : List Int} {t t' : Task}
    {ev : Event} {pc : Pc} (hs : TStep c tmax t pc t' ev) (hrd : ev.Reads parts locks) (hp : t.pc = pc)
    (hok : PcOk c c.g.length pc) (hr : ReadInv c parts tmax t) : ReadInv c (ev.applyParts parts) tmax t' := by
  cases hs with
  | scanIsolated | scanLast => exact readInv_free (nextScan_ls t)
  | scanCut | casFail | unlockPop => exact readInv_free (popCut_ls _)
  | postIsolated | postGainPush | postGainSkip => exact readInv_free (postNext_ls ..)
  | ownFirst => exact ⟨hrd.symm, rfl, nofun⟩
  | gainNext =>
    simp only [ReadInv, hp] at hr
    cases hrd
    exact ⟨hr.1, hr.2.1 ▸ (partialGain_succ _ _ _ _ _ _ hok.2.1).symm, hr.2.2⟩
  | gainTarget h =>
    simp only [ReadInv, hp] at hr
    cases hrd
    refine ⟨hr.1, rfl, ?_⟩
    rintro _ ⟨⟩
    rw [hr.2.1, partialGain_last _ _ _ _ _ _ hok.2.1 h]
    exact better_gain hr.2.2
  | gainStore h _ he h1 h2 =>
    simp only [ReadInv, hp] at hr
    cases hrd
    subst he
    rw [hr.2.1, partialGain_last _ _ _ _ _ _ hok.2.1 h] at h1 h2 ⊢
    exact ⟨hr.1, better_gain hr.2.2, Int.not_le.1 h1, Int.not_lt.1 h2⟩
  | _ => trivial

theorem partialGain_congr {g : Graph} {p p' : List Nat} {v : Nat} (ip tgt k : Nat)
    (h : ∀ u, Adj g v u → p'.getD u 0 = p.getD u 0) : partialGain g p' v ip tgt k = partialGain g p v ip tgt k := by
  unfold partialGain
  congr 1
  apply List.map_congr_left
  intro e he
  rw [h e.1 (adj_iff.2 ⟨e.2, List.mem_of_mem_take he⟩)]

theorem gainOf_congr {g : Graph} {p p' : List Nat} {v : Nat} (ip tgt : Nat)
    (h : ∀ u, Adj g v u → p'.getD u 0 = p.getD u 0) : gainOf g p' v ip tgt = gainOf g p v ip tgt := by
  unfold gainOf
  congr 1
  apply List.map_congr_left
  intro e he
  rw [h e.1 (adj_iff.2 ⟨e.2, he⟩)]

theorem readInv_frame {c : Cfg} {parts parts' : List Nat} {tmax : List Int} {t : Task} {v : Nat}
    (hval : t.pc.ls = .valid v) (hv : parts'.getD v 0 = parts.getD v 0)
    (hn : ∀ u, Adj c.g v u → parts'.getD u 0 = parts.getD u 0) (hr : ReadInv c parts tmax t) :
    ReadInv c parts' tmax t := by
  unfold ReadInv at hr ⊢
  split
  · next v' ip tgt k acc best hpc =>
    rw [hpc] at hr hval
    cases hval
    simp only [hv, partialGain_congr _ _ _ hn, gainOf_congr _ _ hn]
    exact hr
  · next v' ip tgt gain hpc =>
    rw [hpc] at hr hval
    cases hval
    simp only [hv, gainOf_congr _ _ hn]
    exact hr
  · trivial

theorem sum_map_le_bound {l : List Task} (f : Task → Int) (b : Int) (h : ∀ t ∈ l, f t ≤ b) :
    (l.map f).sum ≤ l.length * b := by
  induction l with
  | nil => simp
  | cons a l ih =>
    simp only [List.map_cons, List.sum_cons, List.length_cons, Int.natCast_succ, Int.add_mul, Int.one_mul]
    have := h a List.mem_cons_self
    have := ih fun t ht => h t (List.mem_cons_of_mem _ ht)
    omega

/-- `thread_max_pws`: if each of `T` tasks adds at most its share `(cap - a) / T` of the head-room
(nothing when the part is already above the cap), all together stay below `max a cap`. -/
theorem sum_le_of_share {l : List Task} (f : Task → Int) (a cap : Int) {T : Nat} (hT : 0 < T)
    (hlen : l.length = T) (hf : ∀ t ∈ l, f t ≤ max 0 ((cap - a).tdiv T)) : a + (l.map f).sum ≤ max a cap := by
  have hT' : (0 : Int) < T := by omega
  have hsum := sum_map_le_bound f _ hf
  rw [hlen] at hsum
  rcases Int.le_total 0 (cap - a) with hd | hd
  · have := Int.tdiv_nonneg hd (Int.le_of_lt hT')
    have := Int.mul_tdiv_self_le (k := (T : Int)) hd
    rw [Int.max_eq_right ‹_›] at hsum
    exact Int.le_trans (by omega) (Int.le_max_right ..)
  · have hq : (cap - a).tdiv T ≤ 0 := by
      have := Int.tdiv_nonneg (a := a - cap) (b := T) (by omega) (Int.le_of_lt hT')
      rw [show cap - a = -(a - cap) by omega, Int.neg_tdiv]
      omega
    rw [Int.max_eq_left hq, Int.mul_zero] at hsum
    exact Int.le_trans (by omega) (Int.le_max_left ..)

theorem sum_map_sub_const (l : List Task) (f : Task → Int) (k : Int) :
    (l.map fun t => f t - k).sum = (l.map f).sum - l.length * k := by
  induction l with
  | nil => simp
  | cons a l ih =>
    simp only [List.map_cons, List.sum_cons, List.length_cons, ih, Int.natCast_succ, Int.add_mul, Int.one_mul]
    omega

theorem foldl_merge (l : List Task) (m : Metadata) :
    (l.foldl (fun m t => m.merge t.md) m).edgeCutGain = m.edgeCutGain + (l.map fun t => t.md.edgeCutGain).sum ∧
    ((l.foldl (fun m t => m.merge t.md) m).moveCount : Int) =
      m.moveCount + (l.map fun t => (t.md.moveCount : Int)).sum ∧
    ((l.foldl (fun m t => m.merge t.md) m).passCount : Int) =
      m.passCount + (l.map fun t => (t.md.passCount : Int)).sum := by
  induction l generalizing m with
  | nil => simp
  | cons a l ih =>
    simp only [List.foldl_cons, List.map_cons, List.sum_cons]
    obtain ⟨h1, h2, h3⟩ := ih (m.merge a.md)
    rw [h1, h2, h3]
    simp only [Metadata.merge]
    refine ⟨by omega, ?_, ?_⟩
    · rw [Int.natCast_add]; omega
    · rw [Int.natCast_add]; omega

theorem mkTasks_mem {c : Cfg} {n : Nat} {pw : List Int} {t : Task} (h : t ∈ mkTasks c n pw) :
    t.md = {} ∧ t.pw = pw ∧ t.pc = .notStarted := by
  obtain ⟨i, hi⟩ := List.getElem?_of_mem h
  rw [mkTasks_get hi]
  exact ⟨rfl, rfl, rfl⟩

theorem mkTasks_length (c : Cfg) (n : Nat) (pw : List Int) : (mkTasks c n pw).length = c.threadCount := by
  simp [mkTasks]

theorem countDiff_self (a : List Nat) : countDiff a a = 0 := by
  unfold countDiff
  induction a with
  | nil => rfl
  | cons x a ih => rw [List.zip_cons_cons, List.filter_cons, if_neg (by simp)]; exact ih

theorem gain_sub_loss (pw0 tpw : Int) : taskGain pw0 tpw - taskLoss pw0 tpw = tpw - pw0 := by
  unfold taskGain taskLoss; split <;> omega

theorem gainSum_sub_lossSum (l : List Task) (p : Nat) (pw0 : Int) :
    (l.map fun t => taskGain pw0 (t.pw.getD p 0)).sum - (l.map fun t => taskLoss pw0 (t.pw.getD p 0)).sum
      = (l.map fun t => t.pw.getD p 0 - pw0).sum := by
  induction l with
  | nil => simp
  | cons a l ih =>
    simp only [List.map_cons, List.sum_cons]
    have := gain_sub_loss pw0 (a.pw.getD p 0)
    omega

theorem mergePw_getD (c : Cfg) (s : State) (p : Nat) (hp : p < s.pw.length) :
    (mergePw c s).getD p 0 =
      s.pw.getD p 0 + gainSum s p (s.pw.getD p 0) - lossSum s p (s.pw.getD p 0) := by
  simp only [mergePw, List.getD_eq_getElem?_getD, List.getElem?_map, List.getElem?_zipIdx,
    List.getElem?_eq_getElem hp, Option.map_some, Option.getD_some, Nat.zero_add]

theorem mergePwOld_getD (c : Cfg) (s : State) (p : Nat) (hp : p < s.pw.length) :
    (mergePwOld c s).getD p 0 =
      (s.tasks.map fun t => t.pw.getD p 0).sum - ((c.threadCount : Int) - 1) * s.pw.getD p 0 := by
  simp only [mergePwOld, List.getD_eq_getElem?_getD, List.getElem?_map, List.getElem?_zipIdx,
    List.getElem?_eq_getElem hp, Option.map_some, Option.getD_some, Nat.zero_add]

theorem mergePw_getD_net (c : Cfg) (s : State) (p : Nat) (hp : p < s.pw.length) :
    (mergePw c s).getD p 0 =
      s.pw.getD p 0 + (s.tasks.map fun t => t.pw.getD p 0 - s.pw.getD p 0).sum := by
  rw [mergePw_getD c s p hp]
  have := gainSum_sub_lossSum s.tasks p (s.pw.getD p 0)
  unfold gainSum lossSum
  omega

theorem mergePw_length (c : Cfg) (s : State) : (mergePw c s).length = s.pw.length := by
  simp [mergePw]

theorem mergePwOld_length (c : Cfg) (s : State) : (mergePwOld c s).length = s.pw.length := by
  simp [mergePwOld]

theorem tmaxOf_getD (c : Cfg) (pw : List Int) (p : Nat) (hp : p < pw.length) :
    (tmaxOf c pw).getD p 0 = pw.getD p 0 + Int.tdiv (c.maxPw - pw.getD p 0) c.threadCount := by
  unfold tmaxOf
  simp [List.getD_eq_getElem?_getD, List.getElem?_map, List.getElem?_eq_getElem hp]

structure Hyp (c : Cfg) (p₀ : List Nat) : Prop where
  cfg : CfgOk c p₀
  gsym : Sym c.g
  noLoop : NoLoop c.g
  wnonneg : ∀ v, 0 ≤ c.w.getD v 0
  tpos : 0 < c.threadCount

structure Inv2 (c : Cfg) (p₀ : List Nat) (s : State) : Prop where
  read : ∀ (i : Nat) (t : Task), s.tasks[i]? = some t → ReadInv c s.parts s.tmax t
  cutAcct : cut c.g s.parts + s.md.edgeCutGain + (s.tasks.map fun t => t.md.edgeCutGain).sum = cut c.g p₀
  gainNonneg : 0 ≤ s.md.edgeCutGain ∧ ∀ t ∈ s.tasks, 0 ≤ t.md.edgeCutGain
  moves : (countDiff s.parts p₀ : Int) ≤ s.md.moveCount + (s.tasks.map fun t => (t.md.moveCount : Int)).sum
  pwlen : s.pw.length = c.partCount ∧ ∀ t ∈ s.tasks, t.pw.length = c.partCount
  loadAcct : ∀ p, p < c.partCount →
    Coupe.load c.w s.parts p = s.pw.getD p 0 + (s.tasks.map fun t => t.pw.getD p 0 - s.pw.getD p 0).sum
  budget : ∀ t ∈ s.tasks, ∀ p, p < c.partCount → t.pw.getD p 0 ≤ max (s.pw.getD p 0) (s.tmax.getD p 0)
  tmaxEq : s.tmax = tmaxOf c s.pw
  ntasks : s.tasks.length = c.threadCount
  passBound : ∀ p, p < c.partCount → s.pw.getD p 0 ≤ max (Coupe.load c.w p₀ p) c.maxPw
  passes : (s.md.passCount : Int) ≤ s.md.edgeCutGain + 1 ∧ ∀ t ∈ s.tasks, t.md.passCount = 0

/-- What `budget` allows a task to add to a part: its share of the head-room. -/
theorem Inv2.room {c : Cfg} {p₀ : List Nat} {s : State} (h : Inv2 c p₀ s) {t : Task} (ht : t ∈ s.tasks) {p : Nat}
    (hp : p < c.partCount) :
    t.pw.getD p 0 - s.pw.getD p 0 ≤ max 0 ((c.maxPw - s.pw.getD p 0).tdiv c.threadCount) := by
  have := h.budget t ht p hp
  rw [h.tmaxEq, tmaxOf_getD c s.pw p (h.pwlen.1 ▸ hp)] at this
  omega

theorem Inv2.cap {c : Cfg} {p₀ : List Nat} {s : State} (hy : Hyp c p₀) (h : Inv2 c p₀ s) (p : Nat)
    (hp : p < c.partCount) : Coupe.load c.w s.parts p ≤ max (Coupe.load c.w p₀ p) c.maxPw := by
  rw [h.loadAcct p hp]
  exact Int.le_trans
    (sum_le_of_share (fun t => t.pw.getD p 0 - s.pw.getD p 0) _ c.maxPw hy.tpos h.ntasks fun t ht => h.room ht hp)
    (Int.max_le.2 ⟨h.passBound p hp, Int.le_max_right ..⟩)

theorem inv2_beginPass {c : Cfg} {p₀ : List Nat} {s : State}
    (hcut : cut c.g s.parts + s.md.edgeCutGain = cut c.g p₀) (hg : 0 ≤ s.md.edgeCutGain)
    (hmoves : (countDiff s.parts p₀ : Int) ≤ s.md.moveCount) (hlen : s.pw.length = c.partCount)
    (hload : ∀ p, p < c.partCount → Coupe.load c.w s.parts p = s.pw.getD p 0)
    (hbound : ∀ p, p < c.partCount → s.pw.getD p 0 ≤ max (Coupe.load c.w p₀ p) c.maxPw)
    (hpass : (s.md.passCount : Int) ≤ s.md.edgeCutGain) : Inv2 c p₀ (beginPass c s) := by
  refine ⟨?_, ?_, ⟨hg, ?_⟩, ?_, ⟨hlen, ?_⟩, ?_, ?_, rfl, mkTasks_length .., hbound, ⟨?_, ?_⟩⟩
  · intro i t ht
    exact readInv_free (by rw [(mkTasks_mem (List.mem_of_getElem? ht)).2.2]; rfl)
  · show cut c.g s.parts + s.md.edgeCutGain + ((mkTasks ..).map _).sum = _
    rw [sum_map_zero _ _ fun t ht => by rw [(mkTasks_mem ht).1], Int.add_zero]; exact hcut
  · intro t ht; rw [(mkTasks_mem ht).1]; exact Int.le_refl _
  · show (countDiff s.parts p₀ : Int) ≤ s.md.moveCount + ((mkTasks ..).map _).sum
    rw [sum_map_zero _ _ fun t ht => by rw [(mkTasks_mem ht).1]; rfl, Int.add_zero]; exact hmoves
  · intro t ht; rw [(mkTasks_mem ht).2.1]; exact hlen
  · intro p hp
    show Coupe.load c.w s.parts p = s.pw.getD p 0 + ((mkTasks ..).map _).sum
    rw [sum_map_zero _ _ fun t ht => by rw [(mkTasks_mem ht).2.1]; exact Int.sub_self _, Int.add_zero]
    exact hload p hp
  · intro t ht p _; rw [(mkTasks_mem ht).2.1]; exact Int.le_max_left ..
  · show ((s.md.passCount + 1 : Nat) : Int) ≤ s.md.edgeCutGain + 1
    omega
  · intro t ht; rw [(mkTasks_mem ht).1]

theorem Inv2.store_gain {c : Cfg} {p₀ : List Nat} {s : State} (hy : Hyp c p₀) (h1 : Inv1 c s) (h2 : Inv2 c p₀ s)
    {i : Nat} {t : Task} {v ip tgt : Nat} {gain : Int} (ht : s.tasks[i]? = some t)
    (hpc : t.pc = .store v ip tgt gain) :
    0 < gain ∧ cut c.g (s.parts.set v tgt) = cut c.g s.parts - gain := by
  have hr := h2.read i t ht
  simp only [ReadInv, hpc] at hr
  obtain ⟨hvn, -, hne⟩ : PcOk c c.g.length (.store v ip tgt gain) := hpc ▸ (h1.tok i t ht).2
  exact ⟨hr.2.2.1, hr.2.1 ▸ cut_set hy.gsym hy.noLoop s.parts (h1.plen ▸ hvn) hr.1.symm hne⟩

/-- What a step of one task, from `t` to `t'` with the partition going from `parts` to `parts'`,
does to the quantities `Inv2` adds up over the tasks. -/
structure AcctStep (c : Cfg) (p₀ : List Nat) (tmax : List Int) (parts parts' : List Nat) (t t' : Task) : Prop where
  cut : cut c.g parts' + t'.md.edgeCutGain = cut c.g parts + t.md.edgeCutGain
  gain : t.md.edgeCutGain ≤ t'.md.edgeCutGain
  moves : (countDiff parts' p₀ : Int) + t.md.moveCount ≤ countDiff parts p₀ + t'.md.moveCount
  len : t'.pw.length = t.pw.length
  load : ∀ p, p < c.partCount →
    Coupe.load c.w parts' p - t'.pw.getD p 0 = Coupe.load c.w parts p - t.pw.getD p 0
  budget : ∀ p, p < c.partCount → t'.pw.getD p 0 ≤ max (t.pw.getD p 0) (tmax.getD p 0)
  pass : t'.md.passCount = t.md.passCount

theorem SameAcct.acctStep {c : Cfg} {p₀ : List Nat} {tmax : List Int} {parts : List Nat} {t t' : Task}
    (h : SameAcct t t') : AcctStep c p₀ tmax parts parts t t' := by
  obtain ⟨a1, a2, a3, a4⟩ := h
  exact ⟨by rw [a1], Int.le_of_eq a1.symm, by rw [a2]; exact Int.le_refl _, by rw [a4], fun p _ => by rw [a4],
    fun p _ => a4 ▸ Int.le_max_left .., a3⟩

/-- The invariant after task `tid` went from `t` to `t'` and the partition from `s.parts` to `parts'`.
The step's facts come packed in `AcctStep`: `omega` pays in its certificate for every arithmetic
hypothesis in sight, used or not. -/
theorem Inv2.set {c : Cfg} {p₀ : List Nat} {s : State} (h2 : Inv2 c p₀ s) {tid : Nat} {t t' : Task}
    {parts' : List Nat} (locks' : List Bool) (ht : s.tasks[tid]? = some t)
    (hread : ∀ (i : Nat) ti, (s.tasks.set tid t')[i]? = some ti → ReadInv c parts' s.tmax ti)
    (ha : AcctStep c p₀ s.tmax s.parts parts' t t') :
    Inv2 c p₀ { s with parts := parts', locks := locks', tasks := s.tasks.set tid t' } := by
  have htmem : t ∈ s.tasks := List.mem_of_getElem? ht
  refine ⟨hread, ?_,
    ⟨h2.gainNonneg.1, forall_mem_set h2.gainNonneg.2 (Int.le_trans (h2.gainNonneg.2 t htmem) ha.gain) _⟩, ?_,
    ⟨h2.pwlen.1, forall_mem_set h2.pwlen.2 (ha.len ▸ h2.pwlen.2 t htmem) _⟩, ?_,
    forall_mem_set h2.budget (fun p hp => Int.le_trans (ha.budget p hp)
      (Int.max_le.2 ⟨h2.budget t htmem p hp, Int.le_max_right ..⟩)) _,
    h2.tmaxEq, (List.length_set ..).trans h2.ntasks, h2.passBound,
    ⟨h2.passes.1, forall_mem_set h2.passes.2 (ha.pass ▸ h2.passes.2 t htmem) _⟩⟩
  · have := h2.cutAcct
    have := ha.cut
    simp only [sum_map_set t' _ ht]
    omega
  · have := h2.moves
    have := ha.moves
    simp only [sum_map_set t' _ ht]
    omega
  · intro p hp
    have := h2.loadAcct p hp
    have := ha.load p hp
    simp only [sum_map_set t' _ ht]
    omega

theorem inv2_step {c : Cfg} {p₀ : List Nat} (hy : Hyp c p₀) {s s' : State} {tid : Nat} {ev : Event}
    (hreach : Reach c p₀ s) (h2 : Inv2 c p₀ s) (hstep : step c s tid = some (s', ev)) : Inv2 c p₀ s' := by
  have h1 := inv1_reach hy.cfg hreach
  obtain ⟨t, t', ht, hst, hs'⟩ := step_spec hstep
  have htok := h1.tok tid t ht
  have hr := h2.read tid t ht
  have hread : ∀ (i : Nat) ti, (s.tasks.set tid t')[i]? = some ti → ReadInv c (ev.applyParts s.parts) s.tmax ti := by
    intro i ti hi
    rw [tasks_set_get t' ht] at hi
    split_ifs at hi with hit
    · cases hi
      exact hst.1.read hst.2 rfl htok.2 hr
    · -- another task: what it has read about its own vertex and the neighbours is untouched
      by_cases hv : ∃ v, ti.pc.ls = .valid v
      · obtain ⟨v, hv⟩ := hv
        obtain ⟨e1, e2⟩ := nbr_stable_reach hy.cfg hreach hstep ⟨ti, hi, hv⟩ hit
        rw [hs'] at e1 e2
        exact readInv_frame hv e1 e2 (h2.read i ti hi)
      · exact readInv_of_not_valid fun v h => hv ⟨v, h⟩
  rw [hs']
  -- any step but a store: the accounting fields do not move
  have hother : ev.applyParts s.parts = s.parts → (∀ v p, ev ≠ .partStore v p) →
      Inv2 c p₀ { s with parts := ev.applyParts s.parts, locks := ev.applyLocks s.locks,
                         tasks := s.tasks.set tid t' } := by
    intro e hev
    rw [e] at hread ⊢
    exact h2.set _ ht hread (hst.1.acct hev).acctStep
  cases ev with
  | partStore v q =>
    obtain ⟨ip, gain, hpc, rfl⟩ := hst.1.store_inv
    simp only [ReadInv, hpc] at hr
    obtain ⟨hip, -, -, hcap⟩ := hr
    obtain ⟨hvn, hq, -⟩ : PcOk c c.g.length (.store v ip q gain) := hpc ▸ htok.2
    have hvl : v < s.parts.length := h1.plen ▸ hvn
    have hipc : ip < c.partCount := by
      rw [hip]; apply h1.pval
      exact getD_mem 0 hvl
    have hpwl := h2.pwlen.2 t (List.mem_of_getElem? ht)
    obtain ⟨hpos, hcut⟩ := h2.store_gain hy h1 ht hpc
    refine h2.set _ ht hread ⟨?_, ?_, ?_, ?_, fun p _ => move_load c.w hvl hip.symm (hpwl ▸ hipc) (hpwl ▸ hq) p,
      fun p _ => move_le_budget (hy.wnonneg v) (hpwl ▸ hipc) (hpwl ▸ hq) hcap p, rfl⟩
    · show cut c.g (s.parts.set v q) + (t.md.edgeCutGain + gain) = _
      rw [hcut, Int.add_comm _ gain, ← Int.add_assoc, Int.sub_add_cancel]
    · exact Int.le_add_of_nonneg_right (Int.le_of_lt hpos)
    · have := countDiff_set s.parts p₀ v q
      simp only [Event.applyParts, Int.natCast_add]
      omega
    · simp only [addAt_length]
  | _ => exact hother rfl nofun

theorem endPass_facts {c : Cfg} {p₀ : List Nat} (hy : Hyp c p₀) {s : State} (h2 : Inv2 c p₀ s) :
    let f := (endPass c s).1
    f.parts = s.parts ∧
    cut c.g f.parts + f.md.edgeCutGain = cut c.g p₀ ∧
    f.md.edgeCutGain = s.md.edgeCutGain + passGain s ∧ 0 ≤ passGain s ∧
    (countDiff f.parts p₀ : Int) ≤ f.md.moveCount ∧
    f.md.passCount = s.md.passCount ∧
    f.pw.length = c.partCount ∧
    (∀ p, p < c.partCount → Coupe.load c.w f.parts p = f.pw.getD p 0) := by
  intro f
  obtain ⟨g1, g2, g3⟩ := foldl_merge s.tasks s.md
  have hf : f = { s with pw := mergePw c s, md := s.tasks.foldl (fun m t => m.merge t.md) s.md, tasks := [] } := rfl
  have hpg : passGain s = (s.tasks.map fun t => t.md.edgeCutGain).sum := rfl
  refine ⟨by rw [hf], ?_, ?_, ?_, ?_, ?_, ?_, ?_⟩
  · rw [hf]; simp only; rw [g1, ← Int.add_assoc]; exact h2.cutAcct
  · rw [hf]; simp only; rw [g1, hpg]
  · rw [hpg]; exact sum_map_nonneg _ h2.gainNonneg.2
  · rw [hf]; simp only; rw [g2]; exact h2.moves
  · have : (s.tasks.map fun t => (t.md.passCount : Int)).sum = 0 :=
      sum_map_zero _ _ fun t ht => by rw [h2.passes.2 t ht]; rfl
    rw [this] at g3
    rw [hf]; simp only
    omega
  · rw [hf]; simp only; rw [mergePw_length]; exact h2.pwlen.1
  · intro p hp
    rw [hf]; simp only
    rw [mergePw_getD_net c s p (by rw [h2.pwlen.1]; exact hp), h2.loadAcct p hp]

theorem inv2_reach {c : Cfg} {p₀ : List Nat} (hy : Hyp c p₀) {s : State} (h : Reach c p₀ s) : Inv2 c p₀ s := by
  induction h with
  | init =>
    refine inv2_beginPass (Int.add_zero _) (Int.le_refl _) ?_ (by simp [initState, Coupe.loads])
      (fun p hp => (loads_getD _ _ hp).symm) (fun p hp => ?_) (Int.le_refl _)
    · simp [initState, countDiff_self]
    · rw [show (initState c p₀).pw = Coupe.loads c.w p₀ c.partCount from rfl, loads_getD _ _ hp]
      exact Int.le_max_left ..
  | step hr hstep ih => exact inv2_step hy hr ih hstep
  | @pass s hr hdone hagain ih =>
    obtain ⟨e1, e2, e3, e4, e5, e6, e7, e8⟩ := endPass_facts hy ih
    have hne : passGain s ≠ 0 := by simpa [endPass] using hagain
    refine inv2_beginPass e2 ?_ e5 e7 e8 (fun p hp => ?_) ?_
    · have := ih.gainNonneg.1; omega
    · rw [← e8 p hp, e1]; exact ih.cap hy p hp
    · have := ih.passes.1; omega

end Coupe.ArcSwap
