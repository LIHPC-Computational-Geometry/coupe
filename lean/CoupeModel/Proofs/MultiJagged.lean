import CoupeModel.Model.MultiJagged
import CoupeModel.Proofs.MultiJaggedArith
import CoupeModel.Proofs.Basic

/-!
# Proofs about `Model/MultiJagged.lean`

Three notions carry them.  `specIdx` says what a split position is; the scan over any chunking
followed by the refinement loop computes it (`splitPositions_eq`).  `Near` says that a cut lies
within `wmax` of its share of the slab's weight; consecutive cuts give one level of the balance
bound (`level_balance`).  `ChildOk` collects what the recursion guarantees of one slab; it is
proved for all of them by one induction over the scheme (`recurse_spec`).
-/

namespace Coupe.MultiJagged

/-- What the proofs need from `(num_parts as f32).powf(1. / max_iter as f32).ceil()`. -/
structure RootOk (root : Nat → Nat → Nat) : Prop where
  pos : ∀ n m, 1 ≤ n → 1 ≤ root n m
  le : ∀ n m, 1 ≤ n → 1 ≤ m → root n m ≤ n
  two : ∀ n m, 2 ≤ n → 1 ≤ m → 2 ≤ root n m
  one : ∀ n, 1 ≤ n → root n 1 = n
  zero : root 1 0 = 1

mutual
/-- Well-formed scheme: every splitting node has one child and one modifier per slab, the
modifier numerators are the children's leaf counts and the denominator is their sum. -/
def Scheme.WF : Scheme → Prop
  | .mk 0 _ _ _ => True
  | .mk (_ + 1) _ _ none => False
  | .mk (k + 1) mods den (some cs) =>
    cs.length = k + 2 ∧ mods = cs.map Scheme.leaves ∧ den = mods.sum ∧ 0 < den ∧ WFList cs
def WFList : List Scheme → Prop
  | [] => True
  | c :: cs => c.WF ∧ WFList cs
end

theorem wfList_iff (cs : List Scheme) : WFList cs ↔ ∀ c ∈ cs, c.WF := by
  induction cs with
  | nil => simp [WFList]
  | cons c cs ih => simp only [WFList, ih, List.mem_cons, forall_eq_or_imp]

theorem leavesSum_eq (cs : List Scheme) : leavesSum cs = (cs.map Scheme.leaves).sum := by
  induction cs with
  | nil => rfl
  | cons c cs ih => rw [leavesSum, ih, List.map_cons, List.sum_cons]

theorem depthMax_le_iff (cs : List Scheme) (d : Nat) : depthMax cs ≤ d ↔ ∀ c ∈ cs, c.depth ≤ d := by
  induction cs with
  | nil => simp [depthMax]
  | cons c cs ih => simp only [depthMax, Nat.max_le, ih, List.mem_cons, forall_eq_or_imp]

theorem depth_le_depthMax {c : Scheme} {cs : List Scheme} (hc : c ∈ cs) : c.depth ≤ depthMax cs :=
  (depthMax_le_iff cs _).1 (Nat.le_refl _) c hc

theorem wf_leaves_node {k : Nat} {mods : List Nat} {den : Nat} {cs : List Scheme}
    (h : (Scheme.mk (k + 1) mods den (some cs)).WF) :
    (Scheme.mk (k + 1) mods den (some cs)).leaves = den := by
  obtain ⟨_, hmods, hden, _⟩ := h
  rw [Scheme.leaves, leavesSum_eq, ← hmods, ← hden]

theorem wf_leaves_pos : ∀ s : Scheme, s.WF → 1 ≤ s.leaves
  | .mk 0 _ _ _, _ => Nat.le_refl _
  | .mk (_ + 1) _ _ none, h => h.elim
  | .mk (_ + 1) _ _ (some _), h => wf_leaves_node h ▸ h.2.2.2.1

theorem div_mod_split (n r : Nat) (hr : 0 < r) :
    n % r * (n / r + 1) + (r - n % r) * (n / r) = n := by
  rw [Nat.mul_succ, Nat.add_right_comm, ← Nat.add_mul,
    Nat.add_sub_cancel' (Nat.le_of_lt (Nat.mod_lt n hr))]
  exact Nat.div_add_mod n r

theorem computeModifiers_den (numRegular numFat regularSub fatSub : Nat) :
    (computeModifiers numRegular numFat regularSub fatSub).2 =
      (computeModifiers numRegular numFat regularSub fatSub).1.sum := by
  simp only [computeModifiers, List.sum_append, List.sum_replicate_nat]
  exact Nat.add_comm _ _

theorem scheme_ok {root : Nat → Nat → Nat} (hr : RootOk root) :
    ∀ m n, 1 ≤ n → (m = 0 → n = 1) →
      ∃ s, scheme root n m = some s ∧ s.leaves = n ∧ s.depth ≤ m ∧ s.WF := by
  intro m
  induction m with
  | zero =>
    intro n _ h0
    rw [h0 rfl]
    exact ⟨.mk 0 (computeModifiers 1 0 1 2).1 (computeModifiers 1 0 1 2).2 none,
      by rw [scheme]; simp only [hr.zero]; rfl, rfl, Nat.le_refl _, trivial⟩
  | succ m ih =>
    intro n hn _
    have hpos := hr.pos n (m + 1) hn
    have hle := hr.le n (m + 1) hn (Nat.succ_pos m)
    have htwo := fun h => hr.two n (m + 1) h (Nat.succ_pos m)
    have hone : m = 0 → root n (m + 1) = n := fun h => h ▸ hr.one n hn
    generalize hrr : root n (m + 1) = r at hpos hle htwo hone
    have hrem : n % r < r := Nat.mod_lt _ hpos
    obtain ⟨reg, hreg, hregl, hregd, hregw⟩ := ih (n / r) ((Nat.one_le_div_iff hpos).2 hle)
      fun h => by rw [hone h]; exact Nat.div_self hn
    -- the fat call is evaluated for a remainder only; then `m ≠ 0`, as `root n 1 = n` leaves none
    obtain ⟨fat, hfat, hfatl, hfato⟩ : ∃ fat : List Scheme,
        (if n % r = 0 then some []
          else (scheme root (n / r + 1) m).map (List.replicate (n % r))) = some fat ∧
        fat.map Scheme.leaves = List.replicate (n % r) (n / r + 1) ∧
        ∀ c ∈ fat, c.depth ≤ m ∧ c.WF := by
      by_cases h0 : n % r = 0
      · exact ⟨[], by rw [if_pos h0], by rw [h0]; rfl, fun _ h => nomatch h⟩
      · have hm : m ≠ 0 := fun h => h0 (by rw [hone h]; exact Nat.mod_self n)
        obtain ⟨f, hf, hfl, hfd, hfw⟩ := ih (n / r + 1) (Nat.succ_pos _) fun h => absurd h hm
        exact ⟨List.replicate (n % r) f, by rw [if_neg h0, hf]; rfl, by rw [List.map_replicate, hfl],
          fun c hc => (List.eq_of_mem_replicate hc) ▸ ⟨hfd, hfw⟩⟩
    have hcs : ∀ c ∈ fat ++ List.replicate (r - n % r) reg, c.depth ≤ m ∧ c.WF := by
      intro c hc
      rcases List.mem_append.1 hc with h | h
      · exact hfato c h
      · exact (List.eq_of_mem_replicate h) ▸ ⟨hregd, hregw⟩
    have hl : (fat ++ List.replicate (r - n % r) reg).map Scheme.leaves =
        (computeModifiers (r - n % r) (n % r) (n / r) (n / r + 1)).1 := by
      rw [List.map_append, List.map_replicate, hfatl, hregl]; rfl
    have hsum : (computeModifiers (r - n % r) (n % r) (n / r) (n / r + 1)).1.sum = n := by
      simp only [computeModifiers, List.sum_append, List.sum_replicate_nat]
      exact div_mod_split n r hpos
    simp only [scheme, hrr, Nat.ne_of_gt hpos, if_false, hfat, hreg]
    refine ⟨_, rfl, ?_⟩
    -- a root of 1 makes a leaf; `RootOk.two` allows that for `n = 1` only
    rcases r with _ | _ | k
    · exact absurd hpos (Nat.lt_irrefl 0)
    · have hn2 : ¬2 ≤ n := fun h => absurd (htwo h) (by decide)
      exact ⟨Nat.le_antisymm hn (Nat.le_of_lt_succ (Nat.not_le.1 hn2)), Nat.zero_le _, trivial⟩
    · rw [show k + 1 + 1 - 1 = k + 1 from rfl]
      refine ⟨?_, ?_, ?_, hl.symm, ?_, ?_, (wfList_iff _).2 fun c hc => (hcs c hc).2⟩
      · rw [Scheme.leaves, leavesSum_eq, hl, hsum]
      · rw [Scheme.depth, Nat.add_comm]
        exact Nat.succ_le_succ ((depthMax_le_iff _ _).2 fun c hc => (hcs c hc).1)
      · have := congrArg List.length hfatl
        rw [List.length_map, List.length_replicate] at this
        rw [List.length_append, List.length_replicate, this]
        exact Nat.add_sub_cancel' (Nat.le_of_lt hrem)
      · exact computeModifiers_den _ _ _ _
      · rw [computeModifiers_den, hsum]; exact hn

section split
variable (total den A : Nat)

theorem specFrom_skip (done rest : List Nat) (i s : Nat) (h : (s + done.sum) * den ≤ total * A) :
    specFrom total den A (done ++ rest) i s =
      specFrom total den A rest (i + done.length) (s + done.sum) := by
  induction done generalizing i s with
  | nil => rfl
  | cons w done ih =>
    rw [List.sum_cons, ← Nat.add_assoc] at h
    have h1 : (s + w) * den ≤ total * A :=
      Nat.le_trans (Nat.mul_le_mul_right den (Nat.le_add_right _ _)) h
    rw [List.cons_append, specFrom, if_pos h1, ih _ _ h, List.length_cons, List.sum_cons,
      Nat.add_assoc s, Nat.add_assoc i, Nat.add_comm 1]

theorem specFrom_spec (rest : List Nat) (i s : Nat) (hs : s * den ≤ total * A) :
    ∃ k, specFrom total den A rest i s = i + k ∧ k ≤ rest.length ∧
      (s + (rest.take k).sum) * den ≤ total * A ∧
      (k < rest.length → total * A < (s + (rest.take (k + 1)).sum) * den) := by
  induction rest generalizing i s with
  | nil => exact ⟨0, rfl, Nat.le_refl _, hs, fun h => absurd h (Nat.lt_irrefl 0)⟩
  | cons w rest ih =>
    rw [specFrom]
    split
    · next hle =>
      obtain ⟨k, he, hk, h3, h4⟩ := ih (i + 1) (s + w) hle
      refine ⟨k + 1, by rw [he, Nat.add_assoc, Nat.add_comm 1], Nat.succ_le_succ hk, ?_, fun hlt => ?_⟩
      · rwa [List.take_succ_cons, List.sum_cons, ← Nat.add_assoc]
      · rw [List.take_succ_cons, List.sum_cons, ← Nat.add_assoc]
        exact h4 (Nat.lt_of_succ_lt_succ hlt)
    · next hgt =>
      refine ⟨0, rfl, Nat.zero_le _, hs, fun _ => ?_⟩
      rw [List.take_succ_cons, List.take_zero, List.sum_cons, List.sum_nil, Nat.add_zero]
      exact Nat.lt_of_not_le hgt

/-! The lemmas on the scan and the refinement loop speak of the code as it is now and of the
code before the K4 fix (`guarded := false`) at once: the latter needs every threshold to be
exceeded by the slab's weight, so that neither loop reaches the slab's end. -/

theorem refine_eq (cfg : Cfg) (rest : List Nat) (i s : Nat) (hs : s * den ≤ total * A)
    (hcfg : cfg.guarded = true ∨ total * A < (s + rest.sum) * den) :
    refine cfg total den A rest i s = some (specFrom total den A rest i s) := by
  induction rest generalizing i s with
  | nil =>
    rcases hcfg with h | h
    · simp only [refine, h, if_true, specFrom]
    · rw [List.sum_nil, Nat.add_zero] at h; omega
  | cons w rest ih =>
    rw [refine, specFrom]
    split
    · next hle => exact ih _ _ hle (by rwa [List.sum_cons, ← Nat.add_assoc] at hcfg)
    · rfl

end split

def pre (sw : List Nat) (k : Nat) : Nat := (sw.take k).sum

theorem pre_add (sw : List Nat) (p c : Nat) :
    pre sw (p + c) = pre sw p + ((sw.drop p).take c).sum := by
  unfold pre
  rw [List.take_add, List.sum_append]

theorem pre_mono (sw : List Nat) {a b : Nat} (h : a ≤ b) : pre sw a ≤ pre sw b := by
  obtain ⟨c, rfl⟩ := Nat.exists_eq_add_of_le h
  rw [pre_add]; exact Nat.le_add_right _ _

theorem pre_succ_le (sw : List Nat) (wmax : Nat) (hw : ∀ w ∈ sw, w ≤ wmax) (k : Nat) :
    pre sw (k + 1) ≤ pre sw k + wmax := by
  rw [pre_add]
  cases h : sw.drop k with
  | nil => exact Nat.le_add_right _ _
  | cons w r => exact Nat.add_le_add_left (hw w (List.mem_of_mem_drop (h ▸ List.mem_cons_self))) _

theorem pre_zero (sw : List Nat) : pre sw 0 = 0 := rfl

theorem pre_length (sw : List Nat) : pre sw sw.length = sw.sum := by
  rw [pre, List.take_length]

theorem pre_add_drop_sum (sw : List Nat) (d : Nat) : pre sw d + (sw.drop d).sum = sw.sum := by
  rw [pre, ← List.sum_append, List.take_append_drop]

theorem specIdx_spec (total den A : Nat) (sw : List Nat) :
    specIdx total den A sw ≤ sw.length ∧
    pre sw (specIdx total den A sw) * den ≤ total * A ∧
    (specIdx total den A sw < sw.length → total * A < pre sw (specIdx total den A sw + 1) * den) := by
  obtain ⟨k, he, hk, h3, h4⟩ :=
    specFrom_spec total den A sw 0 0 (by rw [Nat.zero_mul]; exact Nat.zero_le _)
  simp only [Nat.zero_add] at he h3 h4
  rw [specIdx, he]
  exact ⟨hk, h3, h4⟩

theorem le_specIdx {total den A : Nat} {sw : List Nat} {d : Nat} (hd : d ≤ sw.length)
    (h : pre sw d * den ≤ total * A) : d ≤ specIdx total den A sw := by
  refine Nat.le_of_not_lt fun hlt => ?_
  have h1 := (specIdx_spec total den A sw).2.2 (Nat.lt_of_lt_of_le hlt hd)
  have h2 := Nat.mul_le_mul_right den (pre_mono sw (Nat.succ_le_of_lt hlt))
  exact Nat.lt_irrefl _ (Nat.lt_of_lt_of_le h1 (Nat.le_trans h2 h))

theorem specIdx_mono (total den : Nat) (sw : List Nat) {A A' : Nat} (h : A ≤ A') :
    specIdx total den A sw ≤ specIdx total den A' sw :=
  le_specIdx (specIdx_spec total den A sw).1
    (Nat.le_trans (specIdx_spec total den A sw).2.1 (Nat.mul_le_mul_left _ h))

/-- A scan entry `(idx, sum)` from which the refinement loop finds the specified index. -/
def Good (sw : List Nat) (total den A : Nat) (e : Nat × Nat) : Prop :=
  e.1 ≤ sw.length ∧ e.2 = pre sw e.1 ∧ e.2 * den ≤ total * A

theorem Good.mono {sw : List Nat} {total den A A' : Nat} {e : Nat × Nat} (h : Good sw total den A e)
    (hA : A ≤ A') : Good sw total den A' e :=
  ⟨h.1, h.2.1, Nat.le_trans h.2.2 (Nat.mul_le_mul_left _ hA)⟩

theorem good_refine (cfg : Cfg) {sw : List Nat} {total den A : Nat} {e : Nat × Nat}
    (h : Good sw total den A e) (hcfg : cfg.guarded = true ∨ total * A < sw.sum * den) :
    refine cfg total den A (sw.drop e.1) e.1 e.2 = some (specIdx total den A sw) := by
  obtain ⟨h1, h2, h3⟩ := h
  rw [refine_eq total den A cfg _ _ _ h3 (by rwa [h2, pre_add_drop_sum]), specIdx]
  have := specFrom_skip total den A (sw.take e.1) (sw.drop e.1) 0 0
    (by rw [h2] at h3; rwa [Nat.zero_add])
  rw [List.take_append_drop, Nat.zero_add, Nat.zero_add, List.length_take, Nat.min_eq_left h1] at this
  rw [this, h2, pre]

/-- Pointwise relation of two lists of equal length (core has none). -/
inductive All₂ {α β} (R : α → β → Prop) : List α → List β → Prop
  | nil : All₂ R [] []
  | cons {a b as bs} : R a b → All₂ R as bs → All₂ R (a :: as) (b :: bs)

theorem All₂.of_map {α β α' β'} {R : α' → β' → Prop} (f : α → α') (g : β → β') :
    ∀ {as : List α} {bs : List β}, All₂ R (as.map f) (bs.map g) → All₂ (fun a b => R (f a) (g b)) as bs
  | [], [], _ => .nil
  | _ :: _, _ :: _, .cons h1 h2 => .cons h1 (of_map f g h2)

theorem All₂.exists_of_mem {α β} {R : α → β → Prop} {as : List α} {bs : List β} (h : All₂ R as bs) :
    ∀ a ∈ as, ∃ b ∈ bs, R a b := by
  induction h with
  | nil => intro _ h; cases h
  | cons h1 _ ih =>
    intro a ha
    rcases List.mem_cons.1 ha with rfl | ha
    · exact ⟨_, List.mem_cons_self, h1⟩
    · obtain ⟨b, hb, hr⟩ := ih a ha
      exact ⟨b, List.mem_cons_of_mem _ hb, hr⟩

theorem All₂.flatten_perm {α} {as bs : List (List α)} (h : All₂ List.Perm as bs) :
    as.flatten.Perm bs.flatten := by
  induction h with
  | nil => exact .refl _
  | cons h1 _ ih => simpa using h1.append ih

theorem All₂.pairwise_of_perm {α} {S : α → α → Prop} {as bs : List (List α)} (h : All₂ List.Perm as bs)
    (hp : bs.Pairwise (fun a b => ∀ x ∈ a, ∀ y ∈ b, S x y)) :
    as.Pairwise (fun a b => ∀ x ∈ a, ∀ y ∈ b, S x y) := by
  induction h with
  | nil => exact .nil
  | cons h1 hrest ih =>
    rw [List.pairwise_cons] at hp ⊢
    refine ⟨fun a' ha' x hx y hy => ?_, ih hp.2⟩
    obtain ⟨b', hb', hab⟩ := hrest.exists_of_mem a' ha'
    exact hp.1 b' hb' x (h1.mem_iff.1 hx) y (hab.mem_iff.1 hy)

theorem scanInner_spec (cfg : Cfg) (sw : List Nat) (total den A : Nat)
    (hcfg : cfg.guarded = true ∨ total * A < sw.sum * den) :
    ∀ chunks pos, chunks.sum + pos = sw.length → pre sw pos * den ≤ total * A →
      ∃ e chunks' pos',
        scanInner cfg sw.length total den A (mkBlocks chunks (sw.drop pos) pos) (pre sw pos) =
          some (e, mkBlocks chunks' (sw.drop pos') pos', pre sw pos') ∧
        Good sw total den A e ∧ chunks'.sum + pos' = sw.length := by
  intro chunks
  induction chunks with
  | nil =>
    intro pos h1 hle
    rw [List.sum_nil, Nat.zero_add] at h1
    subst h1
    rcases hcfg with h | h
    · exact ⟨(sw.length, pre sw sw.length), [], sw.length,
        by simp only [mkBlocks, scanInner, h, if_true], ⟨Nat.le_refl _, rfl, hle⟩, Nat.zero_add _⟩
    · rw [pre_length] at hle; omega
  | cons c cs ih =>
    intro pos h1 hle
    rw [List.sum_cons] at h1
    rw [mkBlocks, scanInner, ← pre_add, List.drop_drop]
    by_cases hex : total * A < pre sw (pos + c) * den
    · -- an empty block does not exceed a threshold that the blocks before it have not exceeded,
      -- so the block's `low` is `pos`, not `usizeMax`
      have hc : c ≠ 0 := by
        rintro rfl
        exact Nat.not_lt.2 hle hex
      rw [if_pos hex, if_neg hc]
      exact ⟨(pos, pre sw pos), cs, pos + c, rfl, ⟨by omega, rfl, hle⟩, by omega⟩
    · rw [if_neg hex]
      exact ih _ (by omega) (Nat.le_of_not_lt hex)

theorem scanOuter_spec (cfg : Cfg) (sw : List Nat) (total den : Nat) :
    ∀ As chunks pos acc, chunks.sum + pos = sw.length → As.Pairwise (· ≤ ·) →
      (cfg.guarded = true ∨ ∀ A ∈ As, total * A < sw.sum * den) →
      (acc = [] → pos = 0) →
      (∀ last, acc.head? = some last → ∀ A ∈ As, Good sw total den A last) →
      ∃ es, scanOuter cfg sw.length total den As (mkBlocks chunks (sw.drop pos) pos) (pre sw pos) acc =
          some (acc.reverse ++ es) ∧
        All₂ (fun e A => Good sw total den A e) es As := by
  intro As
  induction As with
  | nil =>
    intro chunks pos acc _ _ _ _ _
    exact ⟨[], by simp [scanOuter], .nil⟩
  | cons A As ih =>
    intro chunks pos acc hb hs hcfg hacc hlast
    obtain ⟨hA, hs'⟩ := List.pairwise_cons.1 hs
    have hcfg' := hcfg.imp_right fun h A' hA' => h A' (List.mem_cons_of_mem _ hA')
    -- the entry pushed for `A` serves the later thresholds too
    have hhead : ∀ e, Good sw total den A e → ∀ l, (e :: acc).head? = some l →
        ∀ A' ∈ As, Good sw total den A' l := by
      intro e hg l hl A' hA'
      cases hl
      exact hg.mono (hA A' hA')
    simp only [scanOuter]
    split
    · next hex =>
      cases acc with
      | nil => rw [hacc rfl, pre_zero, Nat.zero_mul] at hex; exact absurd hex (Nat.not_lt_zero _)
      | cons last acc' =>
        have hgood := hlast last rfl A List.mem_cons_self
        obtain ⟨es, he, hg⟩ := ih chunks pos (last :: last :: acc') hb hs' hcfg' (by simp)
          (hhead last hgood)
        exact ⟨last :: es, by simp [he], .cons hgood hg⟩
    · next hnex =>
      obtain ⟨e, chunks', pos', hsi, hgood, hb'⟩ :=
        scanInner_spec cfg sw total den A (hcfg.imp_right fun h => h A List.mem_cons_self)
          chunks pos hb (Nat.le_of_not_lt hnex)
      obtain ⟨es, he, hg⟩ := ih chunks' pos' (e :: acc) hb' hs' hcfg' (by simp) (hhead e hgood)
      exact ⟨e :: es, by simp [hsi, he], .cons hgood hg⟩

theorem refineAll_spec (cfg : Cfg) (sw : List Nat) (total den : Nat) :
    ∀ es As, All₂ (fun e A => Good sw total den A e) es As →
      (cfg.guarded = true ∨ ∀ A ∈ As, total * A < sw.sum * den) →
      refineAll cfg total den sw es As = some (As.map (fun A => specIdx total den A sw)) := by
  intro es As h
  induction h with
  | nil => intro _; rfl
  | cons hg _ ih =>
    intro hcfg
    rw [refineAll, good_refine cfg hg (hcfg.imp_right fun h => h _ List.mem_cons_self),
      ih (hcfg.imp_right fun h A' hA' => h A' (List.mem_cons_of_mem _ hA'))]
    rfl

theorem cumul_ge (l : List Nat) (a : Nat) : ∀ x ∈ cumul l a, a ≤ x := by
  induction l generalizing a with
  | nil => simp [cumul]
  | cons b l ih =>
    intro x hx
    rw [cumul, List.mem_cons] at hx
    rcases hx with rfl | hx
    · exact Nat.le_add_right _ _
    · exact Nat.le_trans (Nat.le_add_right _ _) (ih _ x hx)

theorem cumul_sorted (l : List Nat) (a : Nat) : (cumul l a).Pairwise (· ≤ ·) := by
  induction l generalizing a with
  | nil => exact .nil
  | cons b l ih => exact List.pairwise_cons.2 ⟨cumul_ge l _, ih _⟩

theorem cumul_length (l : List Nat) (a : Nat) : (cumul l a).length = l.length := by
  induction l generalizing a with
  | nil => rfl
  | cons b l ih => simp [cumul, ih]

/-- The slab's weights in the order of the permutation. -/
def slabW (ws perm : List Nat) : List Nat := perm.map (fun i => ws.getD i 0)

theorem slabW_length (ws perm : List Nat) : (slabW ws perm).length = perm.length :=
  List.length_map _

theorem splitPositions_eq (cfg : Cfg) (chunks ws perm mods : List Nat) (den : Nat)
    (hm : mods ≠ []) (hp : ∀ i ∈ perm, i < ws.length) (hc : chunks.sum = perm.length)
    (hcfg : cfg.guarded = true ∨
      ∀ A ∈ cumul mods.dropLast 0, (slabW ws perm).sum * A < (slabW ws perm).sum * den) :
    splitPositions cfg chunks ws perm mods den =
      some ((cumul mods.dropLast 0).map (fun A => specIdx (slabW ws perm).sum den A (slabW ws perm))) := by
  cases mods with
  | nil => exact absurd rfl hm
  | cons m ms =>
    have hany : perm.any (fun i => decide (ws.length ≤ i)) = false := by
      rw [List.any_eq_false]
      intro i hi
      simpa using hp i hi
    obtain ⟨es, he, hg⟩ := scanOuter_spec cfg (slabW ws perm) (slabW ws perm).sum den
      (cumul (m :: ms).dropLast 0) chunks 0 [] (by rw [Nat.add_zero, hc, slabW_length])
      (cumul_sorted _ _) hcfg (fun _ => rfl) (fun _ h => nomatch h)
    rw [List.drop_zero, pre_zero] at he
    simp only [splitPositions, hany, Bool.false_eq_true, if_false]
    rw [← slabW, he]
    exact refineAll_spec cfg _ _ _ _ _ hg hcfg

theorem spec_positions_sorted (total den : Nat) (sw : List Nat) (l : List Nat) (a : Nat) :
    ((cumul l a).map (fun A => specIdx total den A sw)).Pairwise (· ≤ ·) ∧
    ∀ p ∈ (cumul l a).map (fun A => specIdx total den A sw), p ≤ sw.length := by
  refine ⟨List.Pairwise.map _ (fun _ _ h => specIdx_mono total den sw h) (cumul_sorted l a), ?_⟩
  intro p hp
  obtain ⟨A, _, rfl⟩ := List.mem_map.1 hp
  exact (specIdx_spec total den A sw).1

/-- The slices `split_at_mut_many` returns. -/
def segs {α} : List α → Nat → List Nat → List (List α)
  | rest, _, [] => [rest]
  | rest, drained, p :: ps => rest.take (p - drained) :: segs (rest.drop (p - drained)) p ps

theorem splitManyAux_eq {α} (ps : List Nat) (rest : List α) (drained : Nat)
    (hs : ps.Pairwise (· ≤ ·)) (hb : ∀ p ∈ ps, drained ≤ p ∧ p ≤ drained + rest.length) :
    splitManyAux rest drained ps = some (segs rest drained ps) := by
  induction ps generalizing rest drained with
  | nil => rfl
  | cons p ps ih =>
    obtain ⟨h1, h2⟩ := hb p List.mem_cons_self
    obtain ⟨hp, hs'⟩ := List.pairwise_cons.1 hs
    rw [splitManyAux, if_neg (Nat.not_lt.2 h1), if_neg (by omega), Nat.add_sub_cancel' h1,
      ih _ _ hs' fun p' hp' => ⟨hp p' hp', by
        have := (hb p' (List.mem_cons_of_mem _ hp')).2
        rw [List.length_drop]; omega⟩]
    rfl

theorem segs_flatten {α} (ps : List Nat) (rest : List α) (drained : Nat) :
    (segs rest drained ps).flatten = rest := by
  induction ps generalizing rest drained with
  | nil => simp [segs]
  | cons p ps ih => simp [segs, ih]

theorem segs_length {α} (ps : List Nat) (rest : List α) (drained : Nat) :
    (segs rest drained ps).length = ps.length + 1 := by
  induction ps generalizing rest drained with
  | nil => rfl
  | cons p ps ih => simp [segs, ih]

theorem segs_map {α β} (f : α → β) (ps : List Nat) (rest : List α) (drained : Nat) :
    (segs rest drained ps).map (List.map f) = segs (rest.map f) drained ps := by
  induction ps generalizing rest drained with
  | nil => rfl
  | cons p ps ih => simp [segs, ih, List.map_take, List.map_drop]

/-- The cut at `d` is within `wmax` of the share `A / den` of the slab's weight (cross-multiplied). -/
def Near (sw : List Nat) (den wmax d A : Nat) : Prop :=
  pre sw d * den ≤ sw.sum * A ∧ sw.sum * A < pre sw d * den + wmax * den

theorem near_length (sw : List Nat) {den wmax A : Nat} (hB : 0 < wmax * den) (hA : A = den) :
    Near sw den wmax sw.length A := by
  rw [Near, pre_length, hA]; omega

theorem near_zero (sw : List Nat) {den wmax : Nat} (hB : 0 < wmax * den) : Near sw den wmax 0 0 := by
  rw [Near, pre_zero, Nat.zero_mul, Nat.mul_zero, Nat.zero_add]
  exact ⟨Nat.le_refl _, hB⟩

/-- The weight just before `specIdx` is within the threshold, one more element exceeds it. -/
theorem specIdx_near (sw : List Nat) {den wmax : Nat} (hw : ∀ w ∈ sw, w ≤ wmax)
    (hB : 0 < wmax * den) {A : Nat} (hA : A ≤ den) :
    Near sw den wmax (specIdx sw.sum den A sw) A := by
  obtain ⟨s1, s2, s3⟩ := specIdx_spec sw.sum den A sw
  generalize specIdx sw.sum den A sw = p at s1 s2 s3
  refine ⟨s2, ?_⟩
  rcases Nat.lt_or_ge p sw.length with hlt | hge
  · have h1 := s3 hlt
    have h2 := Nat.mul_le_mul_right den (pre_succ_le sw wmax hw p)
    rw [Nat.add_mul] at h2
    omega
  · have := Nat.mul_le_mul_left sw.sum hA
    rw [Nat.le_antisymm s1 hge, pre_length]; omega

/-- The weight `x` differs from the share `m / den` of `total` by less than `wmax` (cross-multiplied). -/
def Share (den total wmax x m : Nat) : Prop :=
  x * den < total * m + wmax * den ∧ total * m < x * den + wmax * den

theorem seg_balance {sw : List Nat} {den wmax d p A m x : Nat} (hd : Near sw den wmax d A)
    (hp : Near sw den wmax p (A + m)) (hx : pre sw d + x = pre sw p) :
    Share den sw.sum wmax x m := by
  obtain ⟨h1, h2⟩ := hd
  obtain ⟨h3, h4⟩ := hp
  rw [← hx, Nat.add_mul, Nat.mul_add] at h3 h4
  rw [Share]
  omega

/-- One level of the balance bound: every slab has its share of the weight.  `acc`/`d`
generalise over the slabs already cut off. -/
theorem level_balance (sw : List Nat) (den wmax : Nat) (hw : ∀ w ∈ sw, w ≤ wmax)
    (hB : 0 < wmax * den) :
    ∀ (ms : List Nat) (acc d : Nat), ms ≠ [] → acc + ms.sum = den → d ≤ sw.length →
      Near sw den wmax d acc →
      All₂ (fun m seg => Share den sw.sum wmax seg.sum m)
        ms (segs (sw.drop d) d ((cumul ms.dropLast acc).map (fun A => specIdx sw.sum den A sw)))
  | [], _, _, h, _, _, _ => absurd rfl h
  | [m], acc, d, _, hsum, _, hn => by
    -- the last slab reaches to the end of `sw`
    rw [List.sum_singleton] at hsum
    exact .cons (seg_balance hn (near_length sw hB hsum) (by rw [pre_length, pre_add_drop_sum])) .nil
  | m :: m' :: ms, acc, d, _, hsum, hd, hn => by
    rw [List.sum_cons] at hsum
    have hp := specIdx_near sw hw hB (A := acc + m) (by omega)
    have hdp : d ≤ specIdx sw.sum den (acc + m) sw :=
      le_specIdx hd (Nat.le_trans hn.1 (Nat.mul_le_mul_left _ (Nat.le_add_right _ _)))
    have hlen := (specIdx_spec sw.sum den (acc + m) sw).1
    simp only [List.dropLast_cons_cons, cumul, List.map_cons, segs]
    generalize specIdx sw.sum den (acc + m) sw = p at hp hdp hlen
    rw [List.drop_drop, Nat.add_sub_cancel' hdp]
    exact .cons (seg_balance hn hp (by rw [← pre_add, Nat.add_sub_cancel' hdp]))
      (level_balance sw den wmax hw hB (m' :: ms) (acc + m) p (List.cons_ne_nil _ _)
        (by rw [← hsum, Nat.add_assoc]) hlen hp)

theorem Scheme.induct {P : Scheme → Prop}
    (h : ∀ k mods den next, (∀ cs, next = some cs → ∀ c ∈ cs, P c) → P (.mk k mods den next)) :
    ∀ s, P s := by
  intro s
  refine Scheme.rec (motive_1 := P)
    (motive_2 := fun o => ∀ cs, o = some cs → ∀ c ∈ cs, P c)
    (motive_3 := fun l => ∀ c ∈ l, P c) ?_ ?_ ?_ ?_ ?_ s
  · intro k mods den next ih; exact h k mods den next ih
  · intro cs h; simp at h
  · intro val ih cs h; cases h; exact ih
  · simp
  · intro head tail ih1 ih2 c hc
    rcases List.mem_cons.1 hc with rfl | h
    · exact ih1
    · exact ih2 c h

/-- What the theorems need from `axis_sort`. -/
structure SortOk (sort : (Nat → Int) → List Nat → List Nat) : Prop where
  perm : ∀ k l, (sort k l).Perm l
  sorted : ∀ k l, (sort k l).Pairwise (fun a b => k a ≤ k b)

/-- Every chunking the parallel scan may use covers the slab. -/
def ChunkOk (chunk : Nat → List Nat) : Prop := ∀ n, (chunk n).sum = n

theorem elems_node (hs : List Hier) : (Hier.node hs).elems = (hs.map Hier.elems).flatten := by
  simp only [Hier.elems, Hier.leaves]
  induction hs with
  | nil => simp [leavesL]
  | cons h hs ih => simp [leavesL, ih, Hier.elems]

theorem leavesL_length (hs : List Hier) : (leavesL hs).length = (hs.map (fun h => h.leaves.length)).sum := by
  induction hs with
  | nil => simp [leavesL]
  | cons h hs ih => simp [leavesL, ih]

theorem mem_leavesL {l : List Nat} : ∀ {hs : List Hier}, l ∈ leavesL hs → ∃ h ∈ hs, l ∈ h.leaves
  | [], hl => nomatch hl
  | h :: hs, hl => by
    rw [leavesL, List.mem_append] at hl
    rcases hl with hl | hl
    · exact ⟨h, List.mem_cons_self, hl⟩
    · obtain ⟨h', hh', hl'⟩ := mem_leavesL hl
      exact ⟨h', List.mem_cons_of_mem _ hh', hl'⟩

mutual
/-- Jagged hierarchy: the children of a node are ordered along the node's axis (no
coordinate of a slab exceeds a coordinate of a later slab) and each child is a jagged
hierarchy along the next axis (cyclically). -/
def Hier.Jagged (key : Nat → Nat → Int) (dim : Nat) : Hier → Nat → Prop
  | .leaf _, _ => True
  | .node cs, coord =>
    (cs.map Hier.elems).Pairwise (fun a b => ∀ x ∈ a, ∀ y ∈ b, key coord x ≤ key coord y) ∧
    JaggedL key dim cs ((coord + 1) % dim)
def JaggedL (key : Nat → Nat → Int) (dim : Nat) : List Hier → Nat → Prop
  | [], _ => True
  | c :: cs, coord => c.Jagged key dim coord ∧ JaggedL key dim cs coord
end

section recursion
variable {sort : (Nat → Int) → List Nat → List Nat} {chunk : Nat → List Nat}
  (dim : Nat) (key : Nat → Nat → Int) (ws : List Nat)

theorem recurse_node (hsort : SortOk sort) (hchunk : ChunkOk chunk)
    (k : Nat) (mods : List Nat) (den : Nat) (cs : List Scheme) (coord : Nat) (perm : List Nat)
    (hm : mods ≠ []) (hp : ∀ i ∈ perm, i < ws.length) :
    recurse {} sort chunk dim key ws (.mk (k + 1) mods den (some cs)) coord perm =
      (recurseList {} sort chunk dim key ws cs ((coord + 1) % dim)
        (segs (sort (key coord) perm) 0
          ((cumul mods.dropLast 0).map (fun A =>
            specIdx (slabW ws (sort (key coord) perm)).sum den A (slabW ws (sort (key coord) perm)))))).map .node := by
  have hp' : ∀ i ∈ sort (key coord) perm, i < ws.length :=
    fun i hi => hp i ((hsort.perm _ _).mem_iff.1 hi)
  have hso := spec_positions_sorted (slabW ws (sort (key coord) perm)).sum den
    (slabW ws (sort (key coord) perm)) mods.dropLast 0
  rw [slabW_length] at hso
  rw [recurse, splitPositions_eq _ _ _ _ _ _ hm hp' (hchunk _) (.inl rfl)]
  simp only [splitMany]
  rw [splitManyAux_eq _ _ _ hso.1 fun p hp => ⟨Nat.zero_le _, by rw [Nat.zero_add]; exact hso.2 p hp⟩]

def wt (ws p : List Nat) : Nat := (slabW ws p).sum

/-- Balance of the leaves below a node with respect to the node's own weight:
`|leaves · W_leaf − W_node| ≤ leaves · depth · wmax`. -/
def Bal (wmax : Nat) (c : Scheme) (p : List Nat) (h : Hier) : Prop :=
  ∀ l ∈ h.leaves,
    -((c.leaves : Int) * c.depth * wmax) ≤ (c.leaves : Int) * wt ws l - wt ws p ∧
    (c.leaves : Int) * wt ws l - wt ws p ≤ (c.leaves : Int) * c.depth * wmax

def ChildOk (wmax : Nat) (coord : Nat) (c : Scheme) (p : List Nat) (h : Hier) : Prop :=
  h.elems.Perm p ∧ h.leaves.length = c.leaves ∧ h.Jagged key dim coord ∧ Bal ws wmax c p h

/-- `P` carries what the caller knows of each pair of a child and its slab (the slab's share of
the node's weight) to the hierarchy made of them. -/
theorem recurseList_spec {P : Scheme → List Nat → Prop} (wmax coord : Nat) {cs : List Scheme}
    {subs : List (List Nat)} (hall : All₂ P cs subs)
    (hrec : ∀ c ∈ cs, ∀ p ∈ subs, P c p → ∃ h, recurse {} sort chunk dim key ws c coord p = some h ∧
      ChildOk dim key ws wmax coord c p h) :
    ∃ hs, recurseList {} sort chunk dim key ws cs coord subs = some hs ∧
      All₂ List.Perm (hs.map Hier.elems) subs ∧ (leavesL hs).length = leavesSum cs ∧
      JaggedL key dim hs coord ∧ ∀ h ∈ hs, ∃ c ∈ cs, ∃ p, P c p ∧ Bal ws wmax c p h := by
  induction hall with
  | nil => exact ⟨[], rfl, .nil, rfl, trivial, fun _ h => nomatch h⟩
  | @cons c p cs subs hcp _ ih =>
    obtain ⟨h, hh, hperm, hleaves, hjag, hbal⟩ := hrec c List.mem_cons_self p List.mem_cons_self hcp
    obtain ⟨hs, hhs, hperms, hleavess, hjags, hbals⟩ :=
      ih fun c' hc' p' hp' => hrec c' (List.mem_cons_of_mem _ hc') p' (List.mem_cons_of_mem _ hp')
    refine ⟨h :: hs, by simp only [recurseList, hh, hhs], .cons hperm hperms, ?_, ⟨hjag, hjags⟩, ?_⟩
    · rw [leavesL, List.length_append, hleaves, hleavess, leavesSum]
    · intro h' hh'
      rcases List.mem_cons.1 hh' with rfl | hm
      · exact ⟨c, List.mem_cons_self, p, hcp, hbal⟩
      · obtain ⟨c', hc', r⟩ := hbals h' hm
        exact ⟨c', List.mem_cons_of_mem _ hc', r⟩

theorem slabW_le (wmax : Nat) (hw : ∀ w ∈ ws, w ≤ wmax) (p : List Nat) : ∀ w ∈ slabW ws p, w ≤ wmax := by
  intro w hw'
  obtain ⟨i, _, rfl⟩ := List.mem_map.1 hw'
  rw [List.getD_eq_getElem?_getD]
  cases h : ws[i]? with
  | none => exact Nat.zero_le _
  | some w => exact hw w (List.mem_of_getElem? h)

theorem recurse_spec (hsort : SortOk sort) (hchunk : ChunkOk chunk) (wmax : Nat)
    (hw : ∀ w ∈ ws, w ≤ wmax) (hwmax : 0 < wmax) :
    ∀ s : Scheme, s.WF → ∀ coord perm, (∀ i ∈ perm, i < ws.length) →
      ∃ h, recurse {} sort chunk dim key ws s coord perm = some h ∧
        ChildOk dim key ws wmax coord s perm h := by
  intro s
  induction s using Scheme.induct with
  | h k mods den next ih =>
    intro hwf coord perm hp
    match k, next, hwf with
    | 0, _, _ =>
      refine ⟨.leaf perm, rfl, by simp [Hier.elems, Hier.leaves], rfl, trivial, fun l hl => ?_⟩
      obtain rfl := List.mem_singleton.1 hl
      simp [Scheme.leaves, Scheme.depth]
    | k + 1, some cs, ⟨hlen, hmods, hden, hdpos, hwfl⟩ =>
      have hmne : mods ≠ [] := fun h => by
        rw [hmods, List.map_eq_nil_iff] at h
        rw [h] at hlen; cases hlen
      rw [recurse_node dim key ws hsort hchunk k mods den cs coord perm hmne hp]
      generalize hsp : sort (key coord) perm = sp
      have hspp : sp.Perm perm := hsp ▸ hsort.perm _ _
      have hsorted := hsort.sorted (key coord) perm
      rw [hsp] at hsorted
      generalize hps : (cumul mods.dropLast 0).map (fun A =>
          specIdx (slabW ws sp).sum den A (slabW ws sp)) = ps
      have hflat := segs_flatten ps sp 0
      rw [← hflat] at hsorted
      -- every slab against its share of this node's weight
      have hlvl : All₂ (fun c p => Share den (slabW ws sp).sum wmax (wt ws p) c.leaves) cs
          (segs sp 0 ps) := by
        have hB := Nat.mul_pos hwmax hdpos
        have := level_balance (slabW ws sp) den wmax (slabW_le ws wmax hw sp) hB mods 0 0 hmne
          (by omega) (Nat.zero_le _) (near_zero _ hB)
        rw [List.drop_zero, hps, hmods, slabW, ← segs_map] at this
        exact this.of_map Scheme.leaves (slabW ws)
      obtain ⟨hs, hhs, hperm, hleaves, hjag, hbal⟩ :=
        recurseList_spec dim key ws wmax ((coord + 1) % dim) hlvl fun c hc p hp' _ =>
          ih cs rfl c hc ((wfList_iff cs).1 hwfl c hc) _ p fun i hi =>
            hp i (hspp.mem_iff.1 (hflat ▸ List.mem_flatten.2 ⟨p, hp', hi⟩))
      refine ⟨.node hs, by rw [hhs]; rfl, ?_, hleaves, ⟨?_, hjag⟩, ?_⟩
      · rw [elems_node]
        exact hperm.flatten_perm.trans (hflat.symm ▸ hspp)
      · exact hperm.pairwise_of_perm (List.pairwise_flatten.1 hsorted).2
      · -- below the child `c` by induction, `c` against this node by `hlvl`
        intro l hl
        obtain ⟨h', hh', hl'⟩ := mem_leavesL hl
        obtain ⟨c, hc, p, hlv, hb⟩ := hbal h' hh'
        obtain ⟨h3, h4⟩ := hb l hl'
        have hleaves := wf_leaves_node (k := k) (cs := cs) ⟨hlen, hmods, hden, hdpos, hwfl⟩
        have hwt : wt ws perm = (slabW ws sp).sum := ((hspp.map _).sum_nat).symm
        rw [hleaves, Scheme.depth, hwt]
        have ha := wf_leaves_pos c ((wfList_iff cs).1 hwfl c hc)
        have hdD := depth_le_depthMax hc
        exact balance_step den c.leaves c.depth _ (wt ws l) (wt ws p) _ wmax ha
          (by omega) hlv.1 hlv.2 h3 h4

end recursion

theorem setAll_getElem? (v : Nat) (l p : List Nat) (j : Nat) :
    (l.foldl (fun p i => p.set i v) p)[j]? = if j ∈ l ∧ j < p.length then some v else p[j]? := by
  induction l generalizing p with
  | nil => simp
  | cons i l ih =>
    rw [List.foldl_cons, ih, List.length_set, List.getElem?_set]
    by_cases hji : i = j
    · subst hji
      by_cases hl : i < p.length <;> simp [hl]
    · simp [hji, Ne.symm hji]

theorem setAll_length (v : Nat) (l p : List Nat) : (l.foldl (fun p i => p.set i v) p).length = p.length := by
  induction l generalizing p with
  | nil => rfl
  | cons i l ih => rw [List.foldl_cons, ih, List.length_set]

/-- `assign` with the leaf numbering starting at `off`. -/
def assignFrom (ren : Nat → Nat) (off : Nat) (leaves : List (List Nat)) (p : List Nat) : List Nat :=
  (leaves.zipIdx off).foldl (fun p lk => lk.1.foldl (fun p i => p.set i (ren lk.2)) p) p

theorem assignFrom_cons (ren : Nat → Nat) (off : Nat) (l : List Nat) (ls : List (List Nat)) (p : List Nat) :
    assignFrom ren off (l :: ls) p =
      assignFrom ren (off + 1) ls (l.foldl (fun p i => p.set i (ren off)) p) := by
  rw [assignFrom, List.zipIdx_cons, List.foldl_cons]; rfl

theorem assignFrom_length (ren : Nat → Nat) (leaves : List (List Nat)) (off : Nat) (p : List Nat) :
    (assignFrom ren off leaves p).length = p.length := by
  induction leaves generalizing off p with
  | nil => rfl
  | cons l ls ih => rw [assignFrom_cons, ih, setAll_length]

theorem assignFrom_not_mem (ren : Nat → Nat) (leaves : List (List Nat)) (off : Nat) (p : List Nat) (j : Nat)
    (hj : j ∉ leaves.flatten) : (assignFrom ren off leaves p)[j]? = p[j]? := by
  induction leaves generalizing off p with
  | nil => rfl
  | cons l ls ih =>
    rw [List.flatten_cons, List.mem_append, not_or] at hj
    rw [assignFrom_cons, ih _ _ hj.2, setAll_getElem?, if_neg fun h => hj.1 h.1]

theorem assignFrom_mem (ren : Nat → Nat) (leaves : List (List Nat)) (off : Nat) (p : List Nat)
    (hnd : leaves.flatten.Nodup) (hlt : ∀ j ∈ leaves.flatten, j < p.length) :
    ∀ k (hk : k < leaves.length), ∀ j ∈ leaves[k], (assignFrom ren off leaves p)[j]? = some (ren (off + k)) := by
  induction leaves generalizing off p with
  | nil => intro k hk; exact absurd hk (Nat.not_lt_zero k)
  | cons l ls ih =>
    intro k hk j hj
    rw [List.flatten_cons, List.nodup_append] at hnd
    rw [List.flatten_cons] at hlt
    rw [assignFrom_cons]
    cases k with
    | zero =>
      -- the later leaves do not hold `j`
      rw [List.getElem_cons_zero] at hj
      rw [assignFrom_not_mem ren ls _ _ j fun h => hnd.2.2 j hj j h rfl, setAll_getElem?,
        if_pos ⟨hj, hlt j (List.mem_append_left _ hj)⟩]
      rfl
    | succ k =>
      rw [List.getElem_cons_succ] at hj
      rw [ih (off + 1) _ hnd.2.1 (fun j' hj' => by
          rw [setAll_length]; exact hlt j' (List.mem_append_right _ hj'))
        k (Nat.lt_of_succ_lt_succ hk) j hj, Nat.add_assoc, Nat.add_comm 1]

theorem assign_eq (ren : Nat → Nat) (leaves : List (List Nat)) (p : List Nat) :
    assign ren leaves p = assignFrom ren 0 leaves p := rfl

theorem slabW_range (ws : List Nat) : slabW ws (List.range ws.length) = ws := by
  apply List.ext_getElem
  · simp [slabW]
  · intro i h1 h2
    simp [slabW, List.getD_eq_getElem?_getD, List.getElem?_eq_getElem h2]

theorem mem_le_sum (l : List Nat) (w : Nat) (h : w ∈ l) : w ≤ l.sum := by
  induction l with
  | nil => cases h
  | cons x xs ih =>
    rw [List.sum_cons]
    rcases List.mem_cons.1 h with rfl | h
    · exact Nat.le_add_right _ _
    · exact Nat.le_trans (ih h) (Nat.le_add_left _ _)

theorem insKey_eq (k : Nat → Int) (x : Nat) (l : List Nat) :
    insKey k x l = insBy (fun a b => !decide (k a < k b)) x l := by
  induction l with
  | nil => rfl
  | cons y ys ih => simp only [insKey, insBy, ih, Bool.not_eq_true', decide_eq_false_iff_not, ite_not]

theorem insKey_perm (k : Nat → Int) (x : Nat) (l : List Nat) : (insKey k x l).Perm (x :: l) :=
  insKey_eq k x l ▸ perm_insBy _ x l

theorem insKey_sorted (k : Nat → Int) (x : Nat) (l : List Nat) (h : l.Pairwise (fun a b => k a ≤ k b)) :
    (insKey k x l).Pairwise (fun a b => k a ≤ k b) :=
  insKey_eq k x l ▸ pairwise_insBy Int.le_trans (fun y hy => Int.not_lt.1 (by simpa using hy))
    (fun y hy => Int.le_of_lt (by simpa using hy)) h

theorem isort_ok : SortOk isort where
  perm := by
    intro k l
    induction l with
    | nil => exact .refl _
    | cons x xs ih => exact (insKey_perm k x _).trans (ih.cons x)
  sorted := by
    intro k l
    induction l with
    | nil => exact .nil
    | cons x xs ih => exact insKey_sorted k x _ ih

theorem irootFrom_ge (n m fuel cand : Nat) : cand ≤ irootFrom n m fuel cand := by
  induction fuel generalizing cand with
  | zero => exact Nat.le_refl _
  | succ fuel ih =>
    rw [irootFrom]
    split
    · exact Nat.le_refl _
    · exact Nat.le_trans (Nat.le_succ _) (ih _)

theorem irootFrom_spec (n m : Nat) (hnm : n ≤ n ^ m) (fuel cand : Nat) (h : cand ≤ n) :
    irootFrom n m fuel cand ≤ n ∧ (n < fuel + cand → n ≤ (irootFrom n m fuel cand) ^ m) := by
  induction fuel generalizing cand with
  | zero => exact ⟨h, fun h2 => by omega⟩
  | succ fuel ih =>
    rw [irootFrom]
    split
    · next hyes => exact ⟨h, fun _ => hyes⟩
    · next hno =>
      -- `n` itself passes the test, so a failing candidate is below `n`
      obtain ⟨h1, h2⟩ := ih _ (Nat.lt_of_le_of_ne h fun he => hno (he ▸ hnm))
      exact ⟨h1, fun hf => h2 (by omega)⟩

theorem iroot_eq {n m : Nat} (hn : 1 ≤ n) (hm : 1 ≤ m) : iroot n m = irootFrom n m n 1 := by
  rw [iroot, if_neg (Nat.ne_of_gt hn), if_neg (Nat.ne_of_gt hm)]

theorem iroot_ok : RootOk iroot where
  pos := by
    intro n m hn
    rw [iroot, if_neg (Nat.ne_of_gt hn)]
    split
    · split
      · exact Nat.le_refl 1
      · decide
    · exact irootFrom_ge n m n 1
  le := by
    intro n m hn hm
    rw [iroot_eq hn hm]
    exact (irootFrom_spec n m (Nat.le_self_pow (Nat.ne_of_gt hm) n) n 1 hn).1
  two := by
    intro n m hn hm
    -- the candidate 1 fails
    obtain ⟨f, rfl⟩ : ∃ f, n = f + 1 := ⟨n - 1, by omega⟩
    rw [iroot_eq (Nat.succ_pos f) hm, irootFrom, Nat.one_pow, if_neg (by omega)]
    exact irootFrom_ge _ m f 2
  one := by
    intro n hn
    have hnm : n ≤ n ^ 1 := by rw [Nat.pow_one]
    rw [iroot_eq hn (Nat.le_refl 1)]
    obtain ⟨h1, h2⟩ := irootFrom_spec n 1 hnm n 1 hn
    rw [Nat.pow_one] at h2
    exact Nat.le_antisymm h1 (h2 (by omega))
  zero := by decide

end Coupe.MultiJagged
