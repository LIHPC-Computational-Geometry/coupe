import CoupeModel.Model.Basic

/-!
List facts, insertion into a sorted list (`insBy`), and facts about `load` / `loads` of
`Model/Basic.lean`, that the proofs of several algorithms share.  Core tactics only.
-/

namespace Coupe

theorem getD_eq_getElem {α} {l : List α} {i : Nat} (d : α) (h : i < l.length) : l.getD i d = l[i] := by
  rw [List.getD_eq_getElem?_getD, List.getElem?_eq_getElem h, Option.getD_some]

theorem getD_mem {α} {l : List α} {i : Nat} (d : α) (h : i < l.length) : l.getD i d ∈ l :=
  getD_eq_getElem d h ▸ List.getElem_mem h

theorem getD_set_self {α} (l : List α) (i : Nat) (x d : α) (h : i < l.length) :
    (l.set i x).getD i d = x := by
  simp [List.getD_eq_getElem?_getD, List.getElem?_set_self h]

theorem getD_set_ne {α} (l : List α) (i j : Nat) (x d : α) (h : i ≠ j) :
    (l.set i x).getD j d = l.getD j d := by
  simp [List.getD_eq_getElem?_getD, List.getElem?_set_ne h]

theorem sum_map_add {α} (l : List α) (f h : α → Int) :
    (l.map fun a => f a + h a).sum = (l.map f).sum + (l.map h).sum := by
  induction l with
  | nil => rfl
  | cons a l ih => simp only [List.map_cons, List.sum_cons, ih]; omega

theorem sum_nonneg (l : List Int) (h : ∀ x ∈ l, 0 ≤ x) : 0 ≤ l.sum := by
  induction l with
  | nil => exact Int.le_refl 0
  | cons a l ih =>
    have := ih fun x hx => h x (List.mem_cons_of_mem a hx)
    have := h a List.mem_cons_self
    rw [List.sum_cons]; omega

theorem perm_sum {l l' : List Int} (h : l.Perm l') : l.sum = l'.sum := by
  induction h with
  | nil => rfl
  | cons x _ ih => simp only [List.sum_cons, ih]
  | swap x y l => simp only [List.sum_cons]; omega
  | trans _ _ ih₁ ih₂ => exact ih₁.trans ih₂

theorem sum_map_nonneg {α} {l : List α} (f : α → Int) (h : ∀ t ∈ l, 0 ≤ f t) : 0 ≤ (l.map f).sum :=
  sum_nonneg _ fun x hx => by
    obtain ⟨t, ht, rfl⟩ := List.mem_map.1 hx
    exact h t ht

theorem sum_map_zero {α} (l : List α) (f : α → Int) (H : ∀ x ∈ l, f x = 0) : (l.map f).sum = 0 := by
  induction l with
  | nil => rfl
  | cons a l ih =>
    rw [List.map_cons, List.sum_cons, ih (fun x hx => H x (List.mem_cons_of_mem a hx)),
      H a List.mem_cons_self]
    rfl

theorem filter_map_sum {α} (l : List α) (q : α → Bool) (f : α → Int) :
    ((l.filter q).map f).sum = (l.map fun a => if q a then f a else 0).sum := by
  induction l with
  | nil => rfl
  | cons a l ih =>
    rw [List.filter_cons, List.map_cons, List.sum_cons, ← ih]
    split
    · rfl
    · exact (Int.zero_add _).symm

theorem sum_range_ite (n v : Nat) (a : Nat → Int) (hv : v < n) :
    ((List.range n).map fun i => if v = i then a i else 0).sum = a v := by
  induction n with
  | zero => omega
  | succ n ih =>
    rw [List.range_succ, List.map_append, List.sum_append, List.map_singleton, List.sum_singleton]
    by_cases h : v = n
    · rw [sum_map_zero _ _ fun x hx => if_neg (by rw [List.mem_range] at hx; omega), if_pos h, h]
      omega
    · rw [ih (by omega), if_neg h]; omega

theorem set_split {α} {l : List α} {i : Nat} {t : α} (t' : α) (h : l[i]? = some t) :
    ∃ a b, l = a ++ t :: b ∧ l.set i t' = a ++ t' :: b := by
  obtain ⟨hlt, rfl⟩ := List.getElem?_eq_some_iff.1 h
  exact ⟨l.take i, l.drop (i + 1), by rw [List.getElem_cons_drop, List.take_append_drop],
    by rw [List.set_eq_take_append_cons_drop, if_pos hlt]⟩

theorem sum_map_set {α} {l : List α} {i : Nat} {t : α} (t' : α) (f : α → Int) (h : l[i]? = some t) :
    ((l.set i t').map f).sum = (l.map f).sum - f t + f t' := by
  obtain ⟨a, b, rfl, e⟩ := set_split t' h
  simp only [e, List.map_append, List.map_cons, List.sum_append_int, List.sum_cons]
  omega

theorem mapM_some {α β} (f : α → Option β) (g : α → β) :
    ∀ (l : List α), (∀ x ∈ l, f x = some (g x)) → l.mapM f = some (l.map g)
  | [], _ => rfl
  | x :: xs, h => by
    rw [List.mapM_cons, h x List.mem_cons_self,
      mapM_some f g xs fun y hy => h y (List.mem_cons_of_mem _ hy)]
    rfl

theorem zipIdx_eq_map_range {α} (l : List α) (d : α) :
    l.zipIdx = (List.range l.length).map fun i => (l.getD i d, i) := by
  apply List.ext_getElem
  · simp
  · intro i h1 _
    simp [List.getElem?_eq_getElem (by simpa using h1 : i < l.length)]

theorem takeWhile_eq_filter_of_sorted (v : Nat) (row : List (Nat × Int))
    (hs : row.Pairwise (fun a b => a.1 ≤ b.1)) :
    row.takeWhile (fun e => decide (e.1 < v)) = row.filter (fun e => decide (e.1 < v)) := by
  induction row with
  | nil => rfl
  | cons e row ih =>
    rw [List.pairwise_cons] at hs
    by_cases h : e.1 < v
    · simp only [List.takeWhile_cons, List.filter_cons, h, decide_true, if_true, ih hs.2]
    · simp only [List.takeWhile_cons, List.filter_cons, h, decide_false, Bool.false_eq_true, if_false]
      refine (List.filter_eq_nil_iff.mpr fun a ha => ?_).symm
      have := hs.1 a ha
      simp only [decide_eq_true_eq]; omega

/-- Insertion behind the elements that `lt e` holds of.  The insertion steps of the models' sorts and
heaps are instances: `Ckk.insDesc`, `Kk.insRow`, `Kk.insInt`, `Kk.insVal`, and with `lt` negated the
ascending `Vn.insAsc`, `Dual.insertNat`, `MultiJagged.insKey`, `Sfc.ZCurve.insertByKey`. -/
def insBy {α : Type} (lt : α → α → Bool) (e : α) : List α → List α
  | [] => [e]
  | x :: xs => if lt e x then x :: insBy lt e xs else e :: x :: xs

theorem perm_insBy {α : Type} (lt : α → α → Bool) (e : α) (l : List α) :
    (insBy lt e l).Perm (e :: l) := by
  induction l with
  | nil => exact .refl _
  | cons x xs ih =>
    simp only [insBy]
    split
    · exact (ih.cons x).trans (.swap e x xs)
    · exact .refl _

theorem pairwise_insBy {α : Type} {R : α → α → Prop} {lt : α → α → Bool} {e : α} {l : List α}
    (trans : ∀ {a b c}, R a b → R b c → R a c)
    (above : ∀ x, lt e x = true → R x e) (below : ∀ x, ¬ lt e x = true → R e x)
    (h : l.Pairwise R) : (insBy lt e l).Pairwise R := by
  induction l with
  | nil => exact List.pairwise_singleton R e
  | cons x xs ih =>
    rw [List.pairwise_cons] at h
    simp only [insBy]
    split
    · next hlt =>
      refine List.pairwise_cons.2 ⟨fun y hy => ?_, ih h.2⟩
      rcases List.mem_cons.1 ((perm_insBy lt e xs).mem_iff.1 hy) with rfl | hy
      · exact above x hlt
      · exact h.1 y hy
    · next hlt =>
      refine List.pairwise_cons.2 ⟨fun y hy => ?_, List.pairwise_cons.2 h⟩
      rcases List.mem_cons.1 hy with rfl | hy
      · exact below y hlt
      · exact trans (below x hlt) (h.1 y hy)

theorem load_nil (ids : List Nat) (j : Nat) : load [] ids j = 0 := rfl

theorem load_cons (w : Int) (ws : List Int) (i : Nat) (ids : List Nat) (j : Nat) :
    load (w :: ws) (i :: ids) j = (if i = j then w else 0) + load ws ids j := by
  simp only [load, List.zip_cons_cons, List.filter_cons, beq_iff_eq]
  split
  · rfl
  · exact (Int.zero_add _).symm

theorem load_set (ws : List Int) (ids : List Nat) (v t k : Nat) (hv : v < ids.length) :
    load ws (ids.set v t) k =
      load ws ids k - (if ids.getD v 0 = k then ws.getD v 0 else 0) + (if t = k then ws.getD v 0 else 0) := by
  induction ids generalizing ws v with
  | nil => simp at hv
  | cons a ids ih =>
    cases ws with
    | nil => simp [load]
    | cons x ws =>
      cases v with
      | zero => simp only [List.set_cons_zero, load_cons, List.getD_cons_zero]; omega
      | succ v =>
        simp only [List.set_cons_succ, load_cons, List.getD_cons_succ, ih ws v (Nat.lt_of_succ_lt_succ hv)]
        omega

theorem load_nonneg {ws : List Int} (hnn : ∀ w ∈ ws, 0 ≤ w) (ids : List Nat) (j : Nat) :
    0 ≤ load ws ids j :=
  sum_map_nonneg _ fun _ he => hnn _ (List.of_mem_zip (List.mem_filter.1 he).1).1

theorem length_loads (ws : List Int) (ids : List Nat) (k : Nat) : (loads ws ids k).length = k := by
  simp [loads]

theorem loads_ne_nil (ws : List Int) (ids : List Nat) {k : Nat} (h : 0 < k) : loads ws ids k ≠ [] :=
  List.ne_nil_of_length_pos (by rw [length_loads]; exact h)

theorem loads_getElem? (ws : List Int) (ids : List Nat) {k j : Nat} (hj : j < k) :
    (loads ws ids k)[j]? = some (load ws ids j) := by
  simp [loads, List.getElem?_map, List.getElem?_range hj]

theorem loads_getD (ws : List Int) (ids : List Nat) {k j : Nat} (hj : j < k) :
    (loads ws ids k).getD j 0 = load ws ids j := by
  rw [List.getD_eq_getElem?_getD, loads_getElem? ws ids hj]; rfl

end Coupe
