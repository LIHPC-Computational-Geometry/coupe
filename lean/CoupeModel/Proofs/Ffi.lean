import CoupeModel.Model.Ffi

/-! Lemmas for `Props/C17.lean`: the tables of `Gen/Ffi.lean` in closed form (`errMap_eq`, `finish_eq`), and a call as
`rejectCode` (the entry point's own answer) followed by `finish` (the algorithm's).  Core tactics only. -/

namespace Coupe.Ffi
open Coupe.Gen.Ffi

theorem errMap_eq (e : CErr) : errMap e = some (documented e) := by
  cases e <;> decide

theorem crash_eq : crash = .Crash := by decide

theorem hilbertCode_eq : hilbertCode = .NotFound := by decide

def finishCode : Algo → Err
  | .ok _ => .Ok
  | .err e _ => documented e
  | .hilbertErr _ => .NotFound
  | .panic => .Crash

theorem finish_eq (algo : Algo) :
    finish algo = match algo with
      | .ok ids => ⟨.Ok, some ids⟩
      | .err e ids => ⟨documented e, some ids⟩
      | .hilbertErr ids => ⟨.NotFound, some ids⟩
      | .panic => ⟨.Crash, none⟩ := by
  cases algo with
  | ok ids => rfl
  | err e ids => simp only [finish, errMap_eq]
  | hilbertErr ids => simp only [finish, hilbertCode_eq]
  | panic => simp only [finish, crash_eq]

theorem finish_code (algo : Algo) : (finish algo).code = finishCode algo := by
  rw [finish_eq]; cases algo <;> rfl

theorem documented_ne_badDimension (e : CErr) : documented e ≠ .BadDimension := by
  cases e <;> decide
theorem documented_ne_badType (e : CErr) : documented e ≠ .BadType := by
  cases e <;> decide
theorem documented_ne_crash (e : CErr) : documented e ≠ .Crash := by
  cases e <;> decide
theorem documented_ne_ok (e : CErr) : documented e ≠ .Ok := by
  cases e <;> decide

theorem finishCode_ne_badDimension (algo : Algo) : finishCode algo ≠ .BadDimension := by
  cases algo <;> simp [finishCode, documented_ne_badDimension]
theorem finishCode_ne_badType (algo : Algo) : finishCode algo ≠ .BadType := by
  cases algo <;> simp [finishCode, documented_ne_badType]

theorem finishCode_crash_iff (algo : Algo) : finishCode algo = .Crash ↔ algo = .panic := by
  cases algo <;> simp [finishCode, documented_ne_crash]

theorem finishCode_lenMismatch_iff (algo : Algo) :
    finishCode algo = .LenMismatch ↔ ∃ ids, algo = .err .InputLenMismatch ids := by
  cases algo with
  | ok ids => simp [finishCode]
  | err e ids => cases e <;> simp [finishCode, documented]
  | hilbertErr ids => simp [finishCode]
  | panic => simp [finishCode]

theorem finish_ok_iff (algo : Algo) (ids : List Nat) :
    finish algo = ⟨.Ok, some ids⟩ ↔ algo = .ok ids := by
  rw [finish_eq]
  cases algo with
  | ok i => simp
  | err e i => cases e <;> simp [documented]
  | hilbertErr i => simp
  | panic => simp

/-- The entry point's own answer, if it gives one: the code of the first guard that fires, else
that of the dimension dispatch.  `none`: the call reaches the algorithm. -/
def rejectCode (e : Entry) (a : Args) : Option Err :=
  match firstFiring a (prologue e), dims e with
  | some c, _ => some c
  | none, some (ds, bad) => if a.dim ∈ ds then none else some bad
  | none, none => none

theorem run_eq (e : Entry) (a : Args) (algo : Algo) :
    run e a algo = match rejectCode e a with
      | some c => ⟨c, some a.init⟩
      | none => finish algo := by
  unfold run rejectCode
  cases firstFiring a (prologue e) with
  | some c => rfl
  | none =>
    cases dims e with
    | none => rfl
    | some p => simp only []; split <;> rfl

theorem reaches_iff (e : Entry) (a : Args) : reaches e a ↔ rejectCode e a = none := by
  unfold reaches rejectCode
  cases firstFiring a (prologue e) with
  | some c => simp
  | none =>
    cases dims e with
    | none => simp
    | some p => obtain ⟨ds, bad⟩ := p; simp

theorem rejectCode_geo {e : Entry} (he : e = .rcb ∨ e = .rib) (a : Args) (c : Err) :
    rejectCode e a = some c ↔
      (c = .LenMismatch ∧ a.pointsLen ≠ a.weightsLen) ∨
      (c = .BadDimension ∧ a.pointsLen = a.weightsLen ∧ a.dim ≠ 2 ∧ a.dim ≠ 3) := by
  rcases he with rfl | rfl <;>
  · simp only [rejectCode, prologue, firstFiring, Guard.holds, dims]
    by_cases h : a.pointsLen = a.weightsLen <;> simp [h, eq_comm (b := c), and_comm]

theorem rejectCode_hilbert (a : Args) (c : Err) :
    rejectCode .hilbert a = some c ↔
      (c = .LenMismatch ∧ a.pointsLen ≠ a.weightsLen) ∨
      (c = .BadType ∧ a.pointsLen = a.weightsLen ∧ a.weightsTy ≠ .Double) := by
  simp only [rejectCode, prologue, firstFiring, Guard.holds, dims]
  by_cases h : a.pointsLen = a.weightsLen <;> by_cases h2 : a.weightsTy = .Double <;>
    simp [h, h2, eq_comm (b := c)]

theorem rejectCode_num {e : Entry} (he : e = .greedy ∨ e = .kk ∨ e = .ckk) (a : Args) :
    rejectCode e a = none := by
  rcases he with rfl | rfl | rfl <;> rfl

theorem rejectCode_fm (a : Args) (c : Err) :
    rejectCode .fm a = some c ↔ c = .BadType ∧ a.adjTy ≠ .Int64 := by
  simp only [rejectCode, prologue, firstFiring, Guard.holds, dims]
  by_cases h : a.adjTy = .Int64 <;> simp [h, eq_comm (b := c)]

theorem code_eq_iff (e : Entry) (a : Args) (algo : Algo) (c : Err) :
    (run e a algo).code = c ↔ rejectCode e a = some c ∨ (reaches e a ∧ finishCode algo = c) := by
  rw [run_eq, reaches_iff]
  cases rejectCode e a <;> simp [finish_code]

theorem rejectCode_ne_ok (e : Entry) (a : Args) : rejectCode e a ≠ some .Ok := by
  cases e <;> simp [rejectCode_geo, rejectCode_hilbert, rejectCode_num, rejectCode_fm]

namespace Data
variable {α : Type}

theorem map_const_range (n : Nat) (v : α) : (List.range n).map (fun _ => v) = List.replicate n v := by
  induction n with
  | zero => rfl
  | succ k ih => rw [List.range_succ, List.map_append, ih]; simp [List.replicate_succ']

theorem iter_eq_parIter (d : Data α) : d.iter = d.parIter := by
  cases d with
  | array n mem => rfl
  | constant n v => exact map_const_range n v
  | fn n f => rfl

theorem parIter_eq_toSlice (d : Data α) : d.parIter = d.toSlice := by
  cases d <;> rfl

theorem length_iter_le (d : Data α) : d.iter.length ≤ d.len := by
  cases d with
  | array n mem => simp [iter, len, List.length_take]; omega
  | constant n v => simp [iter, len]
  | fn n f => simp [iter, len]

theorem iter_of_denotes (d : Data α) (l : List α) (h : d.Denotes l) : d.iter = l := by
  cases d with
  | array n mem =>
    obtain ⟨hl, hm⟩ := h
    apply List.ext_getElem?
    intro i
    simp only [iter, List.getElem?_take]
    by_cases hi : i < n
    · simp [hi, hm i hi]
    · have : l.length ≤ i := by omega
      simp [hi, List.getElem?_eq_none this]
  | constant n v =>
    obtain ⟨hl, hv⟩ := h
    rw [iter, map_const_range, ← hl]
    exact (List.eq_replicate_iff.mpr ⟨rfl, hv⟩).symm
  | fn n f =>
    obtain ⟨hl, hf⟩ := h
    apply List.ext_getElem?
    intro i
    by_cases hi : i < n
    · simp [iter, hi, hf i hi]
    · have : l.length ≤ i := by omega
      simp [iter, hi, List.getElem?_eq_none this]

end Data

end Coupe.Ffi
