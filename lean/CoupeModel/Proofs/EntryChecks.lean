import CoupeModel.Model.Ckk
import CoupeModel.Model.Rcb
import CoupeModel.Model.Fm

/-!
The argument checks at the head of `Ckk.run`, `Rcb.runBB` and `Fm.run` (lengths; for FM also
"two parts only"): an input inside the usage contract passes them, so the outcomes that report
a rejected input do not occur.  Used by the roll-ups `Props/C01.lean` and `Props/C02.lean`.
-/

namespace Coupe

theorem Ckk.run_ne_lenMismatch_of_len (cfg : Ckk.Cfg) {p : List Nat} {ws : List Int} (tol : Int)
    (hlen : ws.length = p.length) : Ckk.run cfg p ws tol ≠ .lenMismatch := by
  unfold Ckk.run
  rw [if_neg (fun h => h hlen)]
  split
  · simp
  · dsimp only
    split <;> simp

theorem Rcb.runBB_ne_lenMismatch_of_len {α : Type} [Rcb.Coord α] (wt : Int → Int → Bool)
    (cfg : Rcb.Cfg) (iter : Nat) {pts : List (List α)} {ws : List Int} {plen : Nat}
    (lo hi : List α) (hw : ws.length = plen) (hp : pts.length = plen) :
    Rcb.runBB wt cfg iter pts ws plen lo hi ≠ .lenMismatch := by
  unfold Rcb.runBB
  rw [if_neg (fun h => h hw), if_neg (fun h => h hp)]
  split
  · simp
  · split <;> simp

theorem Fm.run_ok_or_abort (ch : Nat → Nat → Nat) (prm : Fm.Params) (capOpt : Option Int)
    {g : Fm.Graph} {ws : List Int} {p : List Nat} (hw : p.length = ws.length)
    (hg : p.length = g.length) (h01 : ∀ i ∈ p, i ≤ 1) :
    (∃ r, Fm.run ch prm capOpt g ws p = .ok r) ∨ ∃ a, Fm.run ch prm capOpt g ws p = .abort a := by
  have hany : ¬ p.any (fun i => decide (1 < i)) = true := by
    simpa using h01
  unfold Fm.run
  rw [if_neg (fun h => h hw), if_neg (fun h => h hg), if_neg hany]
  by_cases he : p.isEmpty = true
  · rw [if_pos he]
    exact .inl ⟨_, rfl⟩
  · rw [if_neg he]
    dsimp only
    by_cases hm : Fm.maxPossibleGain g < 0
    · rw [if_pos hm]
      exact .inr ⟨_, rfl⟩
    · rw [if_neg hm]
      cases Fm.passLoop ch prm g ws (Fm.capOf capOpt ws p) (Fm.maxPossibleGain g)
          (Fm.passFuel g p) 0 _ with
      | error a => exact .inr ⟨a, rfl⟩
      | ok o => exact .inl ⟨_, rfl⟩

end Coupe
