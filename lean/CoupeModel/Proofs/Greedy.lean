import CoupeModel.Model.Greedy
import CoupeModel.Proofs.Ckk

/-! Lemmas on the model of `greedy.rs`: the last minimum, the fold over the sorted vector
(the part weights it keeps are the loads of the ids it writes), uniqueness of the LPT loads. -/

namespace Coupe.Greedy

/-- `pre` is what `min_by` has consumed: `best` points at a minimum `bv` of it. -/
theorem argMinGo_spec (xs : List Int) :
    ∀ (pre : List Int) (best : Nat) (bv : Int) (i : Nat),
      pre.length = i → pre[best]? = some bv → (∀ x ∈ pre, bv ≤ x) →
      ∃ v, (pre ++ xs)[argMinGo best bv i xs]? = some v ∧ ∀ x ∈ pre ++ xs, v ≤ x := by
  induction xs with
  | nil =>
    intro pre best bv i _ hbv hmin
    exact ⟨bv, by rwa [List.append_nil], by rwa [List.append_nil]⟩
  | cons x xs ih =>
    intro pre best bv i hi hbv hmin
    have hlen : (pre ++ [x]).length = i + 1 := by rw [List.length_append, hi]; rfl
    rw [List.append_cons]
    simp only [argMinGo]
    split
    next hlt =>
      refine ih (pre ++ [x]) best bv (i + 1) hlen ?_
        (List.forall_mem_append.2 ⟨hmin, List.forall_mem_singleton.2 (Int.le_of_lt hlt)⟩)
      rw [List.getElem?_append_left (List.getElem?_eq_some_iff.1 hbv).1]
      exact hbv
    next hlt =>
      refine ih (pre ++ [x]) i x (i + 1) hlen ?_ (List.forall_mem_append.2
        ⟨fun y hy => Int.le_trans (Int.not_lt.1 hlt) (hmin y hy),
          List.forall_mem_singleton.2 (Int.le_refl x)⟩)
      rw [List.getElem?_append_right (Nat.le_of_eq hi), hi, Nat.sub_self]
      rfl

theorem argMinLast_spec {L : List Int} (h : L ≠ []) :
    ∃ v, L[argMinLast L]? = some v ∧ ∀ x ∈ L, v ≤ x := by
  match L, h with
  | x :: xs, _ =>
    exact argMinGo_spec xs [x] 0 x 1 rfl rfl fun y hy => by
      rw [List.mem_singleton.1 hy]; exact Int.le_refl _

theorem argMinLast_lt {L : List Int} (h : L ≠ []) : argMinLast L < L.length := by
  obtain ⟨v, hv, _⟩ := argMinLast_spec h
  exact (List.getElem?_eq_some_iff.1 hv).1

theorem argMinLast_min {L : List Int} (h : L ≠ []) :
    ∀ x ∈ L, L[argMinLast L]'(argMinLast_lt h) ≤ x := by
  obtain ⟨v, hv, hmin⟩ := argMinLast_spec h
  obtain ⟨_, hv'⟩ := List.getElem?_eq_some_iff.1 hv
  exact hv' ▸ hmin

theorem insDesc_eq (e : WI) (l : List WI) : insDesc e l = Ckk.insDesc e l := by
  induction l with
  | nil => rfl
  | cons x xs ih => simp only [insDesc, Ckk.insDesc, ih]; rfl

theorem sortDesc_eq (l : List WI) : sortDesc l = Ckk.sortDesc l := by
  induction l with
  | nil => rfl
  | cons x xs ih => rw [sortDesc, Ckk.sortDesc, ih, insDesc_eq]

theorem step_fst (st : State) (e : WI) : (step st e).1 = st.1.set e.2 (argMinLast st.2) := rfl

theorem step_snd (st : State) (e : WI) :
    (step st e).2 = st.2.modify (argMinLast st.2) (· + e.1) := rfl

theorem step_len1 (st : State) (e : WI) : (step st e).1.length = st.1.length := by
  rw [step_fst, List.length_set]

theorem step_len2 (st : State) (e : WI) : (step st e).2.length = st.2.length := by
  rw [step_snd, List.length_modify]

theorem step_ne_nil {st : State} (e : WI) (h : st.2 ≠ []) : (step st e).2 ≠ [] :=
  List.ne_nil_of_length_pos (step_len2 st e ▸ List.length_pos_iff.2 h)

theorem step_lptStep (st : State) (e : WI) (h : st.2 ≠ []) : LptStep e.1 st.2 (step st e).2 :=
  ⟨argMinLast st.2, argMinLast_lt h, argMinLast_min h, by
    rw [step_snd, List.modify_eq_set, List.getElem?_eq_getElem (argMinLast_lt h)]; rfl⟩

theorem fold_lengths (es : List WI) (st : State) :
    (es.foldl step st).1.length = st.1.length ∧ (es.foldl step st).2.length = st.2.length := by
  induction es generalizing st with
  | nil => exact ⟨rfl, rfl⟩
  | cons e es ih =>
    have := ih (step st e)
    rwa [step_len1, step_len2] at this

theorem loop_lengths (p : List Nat) (ws : List Int) (k : Nat) :
    (loop p ws k).1.length = p.length ∧ (loop p ws k).2.length = k := by
  have := fold_lengths (sortDesc ws.zipIdx) (p, List.replicate k 0)
  rwa [List.length_replicate] at this

theorem fold_lptRun (es : List WI) (st : State) (h : st.2 ≠ []) :
    LptRun (es.map (·.1)) st.2 (es.foldl step st).2 := by
  induction es generalizing st with
  | nil => exact LptRun.nil _
  | cons e es ih => exact LptRun.cons (step_lptStep st e h) (ih (step st e) (step_ne_nil e h))

theorem replicate_ne_nil {k : Nat} (hk : 0 < k) : List.replicate k (0 : Int) ≠ [] :=
  List.ne_nil_of_length_pos (List.length_replicate ▸ hk)

theorem loop_isLpt (p : List Nat) (ws : List Int) (k : Nat) (hk : 0 < k) :
    IsLpt ws k (loop p ws k).2 := by
  refine ⟨(sortDesc ws.zipIdx).map (·.1), ?_, ?_, fold_lptRun _ (p, _) (replicate_ne_nil hk)⟩
  · have := (Ckk.perm_sortDesc ws.zipIdx).map (·.1)
    rwa [List.zipIdx_map_fst, ← sortDesc_eq] at this
  · rw [List.pairwise_map, sortDesc_eq]
    exact Ckk.sorted_sortDesc _

theorem fold_untouched (es : List WI) (st : State) (i : Nat) (h : i ∉ es.map (·.2)) :
    (es.foldl step st).1[i]? = st.1[i]? := by
  induction es generalizing st with
  | nil => rfl
  | cons e es ih =>
    simp only [List.map_cons, List.mem_cons, not_or] at h
    rw [List.foldl_cons, ih (step st e) h.2, step_fst, List.getElem?_set,
      if_neg fun h' => h.1 h'.symm]

/-- The id written for an element is an arg-min of the part weights, hence below `k`. -/
theorem fold_written {k : Nat} (es : List WI) (st : State) (hst : st.2.length = k) (hk : 0 < k)
    (hlt : ∀ e ∈ es, e.2 < st.1.length) {i : Nat} (hi : i ∈ es.map (·.2)) :
    asg (es.foldl step st).1 i < k := by
  induction es generalizing st with
  | nil => cases hi
  | cons e es ih =>
    by_cases h : i ∈ es.map (·.2)
    · exact ih (step st e) (step_len2 st e ▸ hst)
        (fun x hx => step_len1 st e ▸ hlt x (List.mem_cons_of_mem _ hx)) h
    · obtain rfl : i = e.2 := (List.mem_cons.1 hi).resolve_right h
      rw [List.foldl_cons, asg, fold_untouched es _ _ h, ← asg, step_fst,
        asg_set _ _ (hlt e List.mem_cons_self), if_pos rfl]
      exact hst ▸ argMinLast_lt (List.ne_nil_of_length_pos (hst ▸ hk))

theorem loop_ids_lt (p : List Nat) (ws : List Int) (k : Nat) (hk : 0 < k)
    (hlen : ws.length = p.length) : ∀ i ∈ (loop p ws k).1, i < k := by
  intro i hi
  obtain ⟨n, hn, rfl⟩ := List.mem_iff_getElem.1 hi
  have hn' : n < ws.length := by rwa [(loop_lengths p ws k).1, ← hlen] at hn
  rw [← asg_of_lt hn]
  refine fold_written _ _ List.length_replicate hk (fun e he => ?_)
    (List.mem_map.2 ⟨(ws[n], n), sortDesc_eq _ ▸ Ckk.mem_init ws hn', rfl⟩)
  exact hlen ▸ Ckk.init_id_lt ws e (sortDesc_eq _ ▸ he)

theorem getD_modify (L : List Int) (a j : Nat) (w : Int) (ha : a < L.length) :
    (L.modify a (· + w))[j]?.getD 0 = L[j]?.getD 0 + (if a = j then w else 0) := by
  rw [List.getElem?_modify]
  by_cases h : a = j
  · subst h
    simp [ha]
  · simp only [if_neg h]
    cases L[j]? <;> simp

theorem fold_loads (es : List WI) (st : State) (hne : st.2 ≠ []) (hnd : (es.map (·.2)).Nodup)
    (hlt : ∀ e ∈ es, e.2 < st.1.length) (j : Nat) :
    (es.foldl step st).2[j]?.getD 0
      = st.2[j]?.getD 0 + wsum (asg (es.foldl step st).1) j es := by
  induction es generalizing st with
  | nil => exact (Int.add_zero _).symm
  | cons e es ih =>
    rw [List.map_cons, List.nodup_cons] at hnd
    have he : e.2 < st.1.length := hlt e List.mem_cons_self
    have hF : asg (es.foldl step (step st e)).1 e.2 = argMinLast st.2 := by
      rw [asg, fold_untouched es _ _ hnd.1, ← asg, step_fst, asg_set _ _ he, if_pos rfl]
    rw [List.foldl_cons, ih (step st e) (step_ne_nil e hne) hnd.2
      (fun x hx => step_len1 st e ▸ hlt x (List.mem_cons_of_mem _ hx)),
      step_snd, getD_modify _ _ _ _ (argMinLast_lt hne), wsum_cons, hF]
    omega

theorem loop_loads (p : List Nat) (ws : List Int) (k : Nat) (hk : 0 < k)
    (hlen : ws.length = p.length) :
    Coupe.loads ws (loop p ws k).1 k = (loop p ws k).2 := by
  obtain ⟨hl1, hl2⟩ := loop_lengths p ws k
  apply List.ext_getElem
  · simp only [loads, List.length_map, List.length_range, hl2]
  · intro j h1 h2
    have hj : j < k := hl2 ▸ h2
    have key : (loop p ws k).2[j]?.getD 0 = (List.replicate k (0 : Int))[j]?.getD 0
        + wsum (asg (loop p ws k).1) j (sortDesc ws.zipIdx) :=
      fold_loads _ (p, _) (replicate_ne_nil hk) (sortDesc_eq _ ▸ Ckk.init_nodup ws)
        (fun e he => hlen ▸ Ckk.init_id_lt ws e (sortDesc_eq _ ▸ he)) j
    rw [sortDesc_eq, wsum_perm _ j (Ckk.perm_sortDesc _),
      wsum_zipIdx _ j ws (loop p ws k).1 0 (hl1.trans hlen.symm)
        (fun i hi => asg_of_lt hi),
      List.getElem?_eq_getElem h2, List.getElem?_replicate, if_pos hj] at key
    simp only [Option.getD_some, Int.zero_add] at key
    simp only [loads, List.getElem_map, List.getElem_range]
    exact key.symm

theorem run_len {p : List Nat} {ws : List Int} {k : Nat} {ids : List Nat}
    (h : run p ws k = .ok ids) : ws.length = p.length := by
  refine Classical.byContradiction fun hne => ?_
  simp [run, hne] at h

theorem run_small {p : List Nat} {ws : List Int} {k : Nat} (hlen : ws.length = p.length)
    (hk : k < 2) : run p ws k = .ok (p.map fun _ => 0) := by
  simp [run, hlen, hk]

theorem run_loop {p : List Nat} {ws : List Int} {k : Nat} (hlen : ws.length = p.length)
    (hk : ¬ k < 2) : run p ws k = .ok (loop p ws k).1 := by
  simp [run, hlen, hk]

theorem set_perm {L : List Int} {j : Nat} {x : Int} (v : Int) (h : L[j]? = some x) :
    ∃ R, (L.set j v).Perm (v :: R) ∧ L.Perm (x :: R) := by
  obtain ⟨a, b, rfl, e⟩ := set_split v h
  exact ⟨a ++ b, e ▸ List.perm_middle, List.perm_middle⟩

theorem lptStep_perm {w : Int} {L₁ L₂ L₁' L₂' : List Int} (h : L₁.Perm L₂)
    (s₁ : LptStep w L₁ L₁') (s₂ : LptStep w L₂ L₂') : L₁'.Perm L₂' := by
  obtain ⟨j₁, hj₁, m₁, rfl⟩ := s₁
  obtain ⟨j₂, hj₂, m₂, rfl⟩ := s₂
  -- both minima are the least element of the common multiset
  have e : L₁[j₁] = L₂[j₂] := by
    have a := m₁ L₂[j₂] (h.symm.subset (List.getElem_mem hj₂))
    have b := m₂ L₁[j₁] (h.subset (List.getElem_mem hj₁))
    omega
  obtain ⟨R₁, s₁, d₁⟩ := set_perm (L₁[j₁] + w) (List.getElem?_eq_getElem hj₁)
  obtain ⟨R₂, s₂, d₂⟩ := set_perm (L₂[j₂] + w) (List.getElem?_eq_getElem hj₂)
  rw [e] at s₁ d₁ ⊢
  exact s₁.trans (((d₁.symm.trans (h.trans d₂)).cons_inv.cons _).trans s₂.symm)

theorem lptRun_perm {ord L₁ L₁' : List Int} (r₁ : LptRun ord L₁ L₁') :
    ∀ {L₂ L₂' : List Int}, LptRun ord L₂ L₂' → L₁.Perm L₂ → L₁'.Perm L₂' := by
  induction r₁ with
  | nil L =>
    intro L₂ L₂' r₂ h
    cases r₂
    exact h
  | cons s _ ih =>
    intro L₂ L₂' r₂ h
    cases r₂ with
    | cons s₂ r₂ => exact ih r₂ (lptStep_perm h s s₂)

end Coupe.Greedy
