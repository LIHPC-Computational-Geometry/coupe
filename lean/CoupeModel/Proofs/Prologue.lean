import CoupeModel.Model.Prologue

/-!
# Lemmas about the prologue interpreter (`Model/Prologue.lean`)

Simp lemmas that turn `eval <concrete guard list>` into a nested `if`, the
characterisation of `maxId`, the side conditions under which no panic site of a
prologue is reachable (`PanicFree`), and what a guard list does as a function of
its first guards (`eval_lenWeights_ne`, …) or of its containing `body`
(`eval_ne_fellOff`), for every list over the vocabulary.
-/

namespace Coupe.Prologue
open Coupe.Gen.Errors

@[simp] theorem bind_stop (r : Result) (k : Nat → Result) : (Step.stop r).bind k = r := rfl
@[simp] theorem bind_next (n : Nat) (k : Nat → Result) : (Step.next n).bind k = k n := rfl
@[simp] theorem bind_ite (c : Prop) [Decidable c] (a b : Step) (k : Nat → Result) :
    (if c then a else b).bind k = if c then a.bind k else b.bind k := by split <;> rfl

theorem maxId_lt_iff (p : List Nat) (k : Nat) : k < maxId p ↔ ∃ x ∈ p, k < x := by
  induction p with
  | nil => simp [maxId]
  | cons a t ih =>
    simp only [maxId, List.mem_cons, exists_eq_or_imp, ← ih]
    omega

theorem maxId_nil_of_length (p : List Nat) (h : p.length = 0) : maxId p = 0 := by
  have : p = [] := List.length_eq_zero_iff.mp h
  subst this
  rfl

theorem any_neg_of_getElem (ws : List Int) (k : Nat) (hk : k < ws.length) (h : ws[k] < 0) :
    ws.any (fun w => decide (w < 0)) = true :=
  List.any_eq_true.2 ⟨ws[k], List.getElem_mem hk, by simpa using h⟩

/-- The prologue left with an error of either enum or at a panic site. -/
def Outcome.isFailure : Outcome → Bool
  | .err _ | .invalidOrder _ _ | .panic _ => true
  | _ => false

/-- Where a guard of the vocabulary leaves the function: never with `fellOff`, and with no write
before an error or a panic. -/
theorem step_stop {g : Guard} {i : Input} {np : Nat} {r : Result} (h : step g i np = .stop r) :
    r.out ≠ .fellOff ∧ (r.out.isFailure = true → r.eff = .none) := by
  -- every guard stops with effect `.none`, except the two `fill(0)` shortcuts, which return `Ok`
  cases g <;> simp only [step] at h <;> (repeat' split at h) <;> cases h <;>
    first | exact ⟨nofun, fun _ => rfl⟩ | exact ⟨nofun, nofun⟩

theorem eval_failure_untouched (gs : List Guard) (i : Input) (np : Nat)
    (hf : (eval gs i np).out.isFailure = true) : (eval gs i np).eff = .none := by
  induction gs generalizing np with
  | nil => rfl
  | cons g gs ih =>
    simp only [eval] at hf ⊢
    cases hs : step g i np with
    | stop r =>
      rw [hs] at hf
      simp only [bind_stop] at hf ⊢
      exact (step_stop hs).2 hf
    | next np' =>
      rw [hs] at hf
      simp only [bind_next] at hf ⊢
      exact ih np' hf

/-- Side condition under which no panic site of the prologue of `a` is
reachable.  `True` for Rcb, Greedy, KarmarkarKarp and FiducciaMattheyses; the
others are the observations listed in `Props/C20.lean` (each excluded input
does panic: `*_panics` there); none of them is a violation the property lists. -/
def PanicFree (a : Algo) (i : Input) : Prop :=
  match a with
  | .rcb | .greedy | .kk | .fm => True
  -- float linear algebra of the oriented bounding box is outside the model; it is only reached
  -- with matching lengths (Rib validates them first)
  | .rib => i.obbOk = true ∨ i.weights.length ≠ i.parts.length ∨ i.points ≠ i.parts.length
  -- `T::from_f64(sum * tolerance).unwrap()`; only reached with matching non-empty input
  | .ckk => i.tolOk = true ∨ i.weights.length ≠ i.parts.length ∨ i.weights.length = 0
  -- `part_count` saturates at `usize::MAX`: with an id of `usize::MAX` and valid lengths
  -- `compute_parts_load`'s `debug_assert!(max < num_parts)` fails
  | .vnBest | .vnFirst => maxId i.parts < usizeMax ∨ i.weights.length ≠ i.parts.length
  -- `1 + max` is evaluated after the length checks and the empty shortcut
  | .arcSwap => maxId i.parts < usizeMax ∨ i.weights.length ≠ i.parts.length ∨ i.graph ≠ i.parts.length
  -- `index_fn_2d(points, ..)` unwraps the bounding box of the points: HilbertCurve validates no length
  | .hilbert2d => i.points ≠ 0 ∨ i.parts.length = 0 ∨ hilbertMaxOrder2d < i.order
  | .hilbert3d => i.points ≠ 0 ∨ i.parts.length = 0 ∨ hilbertMaxOrder3d < i.order

/-- The saturating `max + 1`, in a form `omega` reads. -/
theorem satAdd_eq_min (m : Nat) :
    (if usizeMax ≤ m then usizeMax else 1 + m) = min usizeMax (1 + m) := by
  split <;> omega

/-- Unfold `run` on a concrete guard list into a nested `if`. -/
macro "prologue_unfold" : tactic =>
  `(tactic| simp only [run, guards, rcbGuards, ribGuards, greedyGuards, kkGuards, ckkGuards, vnBestGuards,
      vnFirstGuards, fmGuards, arcSwapGuards, hilbert2dGuards, hilbert3dGuards, eval, step, bind_ite,
      bind_stop, bind_next, satAdd_eq_min, Bool.false_eq_true, ↓reduceIte])

variable {i : Input}

theorem eval_lenWeights_ne (gs : List Guard) (np : Nat) (h : i.weights.length ≠ i.parts.length) :
    eval (.lenWeights :: gs) i np
      = ⟨.err (.inputLenMismatch i.parts.length i.weights.length), .none⟩ := by
  simp only [eval, step, if_pos h, bind_stop]

theorem eval_lenWeights_lenPoints (gs : List Guard) (np : Nat)
    (h : i.weights.length ≠ i.parts.length ∨ i.points ≠ i.parts.length) :
    eval (.lenWeights :: .lenPoints :: gs) i np = ⟨.err (.inputLenMismatch i.parts.length
      (if i.weights.length ≠ i.parts.length then i.weights.length else i.points)), .none⟩ := by
  by_cases hw : i.weights.length ≠ i.parts.length
  · simp only [eval, step, if_pos hw, bind_stop]
  · simp only [eval, step, if_neg hw, if_pos (h.resolve_left hw), bind_next, bind_stop]

theorem eval_lenWeights_lenAdjacency (gs : List Guard) (np : Nat)
    (h : i.weights.length ≠ i.parts.length ∨ i.graph ≠ i.parts.length) :
    eval (.lenWeights :: .lenAdjacency :: gs) i np = ⟨.err (.inputLenMismatch i.parts.length
      (if i.weights.length ≠ i.parts.length then i.weights.length else i.graph)), .none⟩ := by
  by_cases hw : i.weights.length ≠ i.parts.length
  · simp only [eval, step, if_pos hw, bind_stop]
  · simp only [eval, step, if_neg hw, if_pos (h.resolve_left hw), bind_next, bind_stop]

theorem eval_partCountFromMaxSat (gs : List Guard) (np : Nat) :
    eval (.partCountFromMaxSat :: gs) i np
      = eval gs i (if usizeMax ≤ maxId i.parts then usizeMax else 1 + maxId i.parts) := rfl

theorem eval_ne_fellOff {gs : List Guard} (np : Nat) (h : .body ∈ gs) :
    (eval gs i np).out ≠ .fellOff := by
  induction gs generalizing np with
  | nil => cases h
  | cons g gs ih =>
    simp only [eval]
    cases hs : step g i np with
    | stop r => exact (step_stop hs).1
    | next np' =>
      refine ih np' ((List.mem_cons.1 h).resolve_left ?_)
      rintro rfl
      cases hs

/-- Applied guard by guard in place of `split`, which is far dearer on a decision list eleven
guards deep. -/
theorem out_ite_ne {c : Prop} [Decidable c] {a b : Result} {o : Outcome}
    (ha : c → a.out ≠ o) (hb : ¬c → b.out ≠ o) : (if c then a else b).out ≠ o := by
  split
  · exact ha ‹_›
  · exact hb ‹_›

end Coupe.Prologue
