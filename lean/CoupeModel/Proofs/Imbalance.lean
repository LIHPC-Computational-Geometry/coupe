import CoupeModel.Proofs.Metrics
import Mathlib.Algebra.Order.Field.Rat

/-!
# Lemmas about the `imbalance.rs` part of `Model/Metrics.lean`
-/

namespace Coupe.Metrics

theorem partsLoadFold_getElem? (zs : List (Nat × Int)) (acc : List Int) (j : Nat) :
    (partsLoadFold zs acc)[j]? = (acc[j]?).map (· + entry zs j) := by
  induction zs generalizing acc with
  | nil =>
    have : entry [] j = 0 := rfl
    simp [partsLoadFold, this]
  | cons e rest ih =>
    have hstep : partsLoadFold (e :: rest) acc = partsLoadFold rest (addAt acc e.1 e.2) := rfl
    rw [hstep, ih, entry_cons, addAt, List.getElem?_modify]
    cases acc[j]? with
    | none => rfl
    | some a => by_cases h : e.1 = j <;> simp [h, Int.add_assoc]

theorem load_eq_entry (ws : List Int) (p : List Nat) (j : Nat) :
    Coupe.load ws p j = entry (p.zip ws) j := by
  induction ws generalizing p with
  | nil => cases p <;> rfl
  | cons w ws ih =>
    cases p with
    | nil => rfl
    | cons q qs => rw [load_cons, List.zip_cons_cons, entry_cons, ih]

theorem partsLoadFold_zip (p : List Nat) (k : Nat) (ws : List Int) :
    partsLoadFold (p.zip ws) (List.replicate k 0) = Coupe.loads ws p k := by
  apply List.ext_getElem?
  intro j
  rw [partsLoadFold_getElem?]
  unfold Coupe.loads
  by_cases hj : j < k
  · simp [hj, load_eq_entry]
  · simp [hj]

theorem foldl_max_lt_iff (p : List Nat) (a k : Nat) :
    p.foldl max a < k ↔ a < k ∧ ∀ x ∈ p, x < k := by
  induction p generalizing a with
  | nil => simp
  | cons x xs ih => simp only [List.foldl_cons, ih, Nat.max_lt, List.forall_mem_cons, and_assoc]

theorem computePartsLoad?_eq (p : List Nat) (k : Nat) (ws : List Int) :
    computePartsLoad? p k ws =
      if 0 < k ∧ ∀ x ∈ p, x < k then some (Coupe.loads ws p k) else none := by
  simp only [computePartsLoad?, foldl_max_lt_iff, partsLoadFold_zip]

theorem computePartsLoad?_of_inRange (p : List Nat) (k : Nat) (ws : List Int)
    (hk : 0 < k) (hp : ∀ x ∈ p, x < k) :
    computePartsLoad? p k ws = some (Coupe.loads ws p k) := by
  rw [computePartsLoad?_eq, if_pos ⟨hk, hp⟩]

section MinMax
variable {α : Type} [LinearOrder α]

/-- The comparison `|x, y| x < y` itertools is called with. -/
def ltb (a b : α) : Bool := decide (a < b)

theorem foldl_max_spec (l : List α) (a : α) :
    l.foldl max a ∈ a :: l ∧ ∀ x ∈ a :: l, x ≤ l.foldl max a := by
  induction l generalizing a with
  | nil => simp
  | cons y ys ih =>
    obtain ⟨h1, h2⟩ := ih (max a y)
    have h0 := h2 _ List.mem_cons_self
    refine ⟨?_, ?_⟩
    · rcases List.mem_cons.mp h1 with e | h1
      · rw [List.foldl_cons, e]
        rcases max_choice a y with c | c <;> simp [c]
      · exact List.mem_cons_of_mem _ (List.mem_cons_of_mem _ h1)
    · simp only [List.forall_mem_cons] at h2 ⊢
      exact ⟨(le_max_left a y).trans h0, (le_max_right a y).trans h0, h2.2⟩

theorem foldl_min_spec (l : List α) (a : α) :
    l.foldl min a ∈ a :: l ∧ ∀ x ∈ a :: l, l.foldl min a ≤ x :=
  foldl_max_spec (α := αᵒᵈ) l a

theorem ite_lt_eq_min (a m : α) : (if a < m then a else m) = min m a := by
  rcases lt_or_ge a m with h | h
  · rw [if_pos h, min_eq_right h.le]
  · rw [if_neg (not_lt.mpr h), min_eq_left h]

theorem ite_not_lt_eq_max (b m : α) : (if ¬ b < m then b else m) = max m b := by
  rcases lt_or_ge b m with h | h
  · rw [if_neg (not_not.mpr h), max_eq_left h.le]
  · rw [if_pos (not_lt.mpr h), max_eq_right h]

/-- One turn of the main loop: of a pair, only the smaller element is compared
with the minimum and only the larger with the maximum.  That is as good as
comparing both with both. -/
theorem minmaxLoop_pair (mn mx f s : α) (rest : List α) :
    minmaxLoop ltb (mn, mx) (f :: s :: rest) =
      minmaxLoop ltb (min (min mn f) s, max (max mx f) s) rest := by
  simp only [minmaxLoop, ltb, Bool.not_eq_eq_eq_not, Bool.not_true, decide_eq_false_iff_not,
    decide_eq_true_eq, ite_lt_eq_min, ite_not_lt_eq_max, min_assoc, max_assoc]
  split
  · next h => rw [min_eq_left (not_lt.mp h), max_eq_right (not_lt.mp h)]
  · next h => rw [min_eq_right (not_not.mp h).le, max_eq_left (not_not.mp h).le]

theorem minmaxLoop_eq : ∀ (l : List α) (mn mx : α), mn ≤ mx →
    minmaxLoop ltb (mn, mx) l = (l.foldl min mn, l.foldl max mx)
  | [], _, _, _ => rfl
  | [f], mn, mx, h => by
    simp only [minmaxLoop, ltb, Bool.not_eq_eq_eq_not, Bool.not_true, decide_eq_false_iff_not,
      decide_eq_true_eq, List.foldl_cons, List.foldl_nil]
    rcases lt_or_ge f mn with h1 | h1
    · -- `f` is not compared with `mx`: right because `mn ≤ mx`
      rw [if_pos h1, min_eq_right h1.le, max_eq_left (h1.le.trans h)]
    · rw [if_neg (not_lt.mpr h1), min_eq_left h1, ← ite_not_lt_eq_max]
      split <;> rfl
  | f :: s :: rest, mn, mx, h => by
    rw [minmaxLoop_pair, minmaxLoop_eq rest _ _ (min_le_of_left_le (min_le_of_left_le
      (h.trans (le_max_of_le_left (le_max_left _ _)))))]
    rfl

theorem minmax_cons (x : α) (l : List α) :
    minmax ltb (x :: l) = some (l.foldl min x, l.foldl max x) := by
  cases l with
  | nil => rfl
  | cons y rest =>
    simp only [minmax, ltb, Bool.not_eq_eq_eq_not, Bool.not_true, decide_eq_false_iff_not,
      List.foldl_cons]
    rcases lt_or_ge y x with h | h
    · rw [if_neg (not_not.mpr h), minmaxLoop_eq rest y x h.le, min_eq_right h.le, max_eq_left h.le]
    · rw [if_pos (not_lt.mpr h), minmaxLoop_eq rest x y h, min_eq_left h, max_eq_right h]

theorem minmax_spec (l : List α) (hne : l ≠ []) :
    ∃ a b, minmax ltb l = some (a, b) ∧ a ∈ l ∧ b ∈ l ∧ ∀ x ∈ l, a ≤ x ∧ x ≤ b := by
  obtain ⟨x, l, rfl⟩ := List.exists_cons_of_ne_nil hne
  have hmin := foldl_min_spec l x
  have hmax := foldl_max_spec l x
  exact ⟨_, _, minmax_cons x l, hmin.1, hmax.1, fun z hz => ⟨hmin.2 z hz, hmax.2 z hz⟩⟩

end MinMax

theorem maxOf_spec (l : List Int) (hne : l ≠ []) :
    ∃ m, maxOf l = some m ∧ m ∈ l ∧ ∀ x ∈ l, x ≤ m := by
  obtain ⟨y, ys, rfl⟩ := List.exists_cons_of_ne_nil hne
  exact ⟨_, rfl, foldl_max_spec ys y⟩

/-- Exact arithmetic: the same expression as the `f64` one, over `ℚ`. -/
def ratArith : Arith Rat where
  zero := 0
  ofInt := fun i => (i : Rat)
  ofNat := fun n => (n : Rat)
  sub := (· - ·)
  div := (· / ·)
  lt := ltb
  isZero := fun a => decide (a = 0)

/-- Relative deviation of the load `L` from the ideal load `T/K`, in lowest
form: `(K·L − T)/T`. -/
def relDev (k : Nat) (T L : Int) : Rat := ((k : Rat) * (L : Rat) - (T : Rat)) / (T : Rat)

theorem rel_dev_eq (L T : Int) (k : Nat) (hk : 0 < k) :
    (((L : Rat) - (T : Rat) / (k : Rat)) / ((T : Rat) / (k : Rat))) = relDev k T L := by
  have hk' : (k : Rat) ≠ 0 := by exact_mod_cast (by omega : k ≠ 0)
  rw [relDev, div_div_eq_mul_div, sub_mul, div_mul_cancel₀ _ hk', mul_comm]

theorem imbalanceWith_ratArith (k : Nat) (p : List Nat) (ws : List Int)
    (hlen : p.length = ws.length) (hk : 0 < k) (hp : ∀ x ∈ p, x < k) :
    imbalanceWith ratArith k p ws =
      if (Coupe.loads ws p k).sum = 0 then some 0
      else match minmax ltb ((Coupe.loads ws p k).map (relDev k (Coupe.loads ws p k).sum)) with
        | none => some 0
        | some (_, mx) => some mx := by
  generalize hl : Coupe.loads ws p k = l
  have hz : ratArith.isZero (ratArith.div (ratArith.ofInt l.sum) (ratArith.ofNat k)) =
      decide (l.sum = 0) := by
    have hk' : (k : Rat) ≠ 0 := by exact_mod_cast hk.ne'
    show decide (((l.sum : Int) : Rat) / (k : Rat) = 0) = _
    simp [hk']
  have hmap : l.map (fun x => ratArith.div (ratArith.sub (ratArith.ofInt x)
        (ratArith.div (ratArith.ofInt l.sum) (ratArith.ofNat k)))
        (ratArith.div (ratArith.ofInt l.sum) (ratArith.ofNat k))) = l.map (relDev k l.sum) :=
    List.map_congr_left fun L _ => rel_dev_eq L l.sum k hk
  unfold imbalanceWith
  rw [if_neg (not_not.mpr hlen), if_neg hk.ne', computePartsLoad?_of_inRange p k ws hk hp, hl]
  simp only [hz, hmap, decide_eq_true_eq, show ratArith.lt = ltb from rfl]
  split
  · rfl
  · rcases minmax ltb (l.map (relDev k l.sum)) with _ | ⟨_, _⟩ <;> rfl

end Coupe.Metrics
