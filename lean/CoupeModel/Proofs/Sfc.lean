import CoupeModel.Model.Sfc
import CoupeModel.Proofs.Par

/-!
Lemmas behind `Props/C09.lean`.  All facts about `binary_search_by` come from one loop rule for two
searches run side by side (`bsLoop_rule₂`); the chunk ids of `z_curve_partition` are handled through
the closed form `chunkStart`; `z_curve_partition_recurse` is proved for every sort meeting `SortSpec`.
-/

namespace Coupe.Sfc

/-- The loop count of `bsLoop` depends on `size` only, so two searches over slices of one length run
in lockstep and one rule serves both. -/
theorem bsLoop_rule₂ (cmpA cmpB : Nat → Ordering) (P : Nat → Nat → Nat → Prop)
    (step : ∀ size bA bB, 1 < size → P size bA bB →
      P (size - size / 2) (if cmpA (bA + size / 2) = .gt then bA else bA + size / 2)
        (if cmpB (bB + size / 2) = .gt then bB else bB + size / 2))
    (fuel : Nat) : ∀ size bA bB, 1 ≤ size → size ≤ fuel + 1 → P size bA bB →
      P 1 (bsLoop cmpA fuel size bA) (bsLoop cmpB fuel size bB) := by
  induction fuel with
  | zero => exact fun size bA bB h1 hf h => Nat.le_antisymm hf h1 ▸ h
  | succ fuel ih =>
    intro size bA bB h1 hf h
    rw [bsLoop, bsLoop]
    by_cases hs : 1 < size
    · have : 1 ≤ size - size / 2 ∧ size - size / 2 ≤ fuel + 1 := by omega
      rw [if_pos hs, if_pos hs]
      exact ih _ _ _ this.1 this.2 (step _ _ _ hs h)
    · rw [if_neg hs, if_neg hs]
      exact Nat.le_antisymm (Nat.le_of_not_lt hs) h1 ▸ h

theorem bsLoop_rule (cmpAt : Nat → Ordering) (P : Nat → Nat → Prop)
    (step : ∀ size base, 1 < size → P size base →
      P (size - size / 2) (if cmpAt (base + size / 2) = .gt then base else base + size / 2))
    (fuel size base : Nat) (h1 : 1 ≤ size) (hf : size ≤ fuel + 1) (h : P size base) :
    P 1 (bsLoop cmpAt fuel size base) :=
  bsLoop_rule₂ cmpAt cmpAt (fun s b _ => P s b) (fun s b _ => step s b) fuel size base base h1 hf h

theorem window_end_le (c : Prop) [Decidable c] (base size : Nat) :
    (if c then base else base + size / 2) + (size - size / 2) ≤ base + size := by
  split
  · exact Nat.add_le_add_left (Nat.sub_le _ _) _
  · rw [Nat.add_assoc, Nat.add_sub_cancel' (Nat.div_le_self size 2)]
    exact Nat.le_refl _

/-- Whatever the comparator, the loop keeps `base + size ≤ len`: every probe is in bounds (the
`get_unchecked` calls are sound). -/
theorem bsLoop_lt (cmpAt : Nat → Ordering) (len : Nat) (hl : len ≠ 0) :
    bsLoop cmpAt len len 0 < len :=
  bsLoop_rule cmpAt (fun size base => base + size ≤ len)
    (fun size base _ h => Nat.le_trans (window_end_le _ base size) h) len len 0
    (Nat.pos_of_ne_zero hl) (Nat.le_succ len) (Nat.le_of_eq (Nat.zero_add len))

theorem bsearchBy_idx (len : Nat) (cmpAt : Nat → Ordering) (hl : len ≠ 0) :
    (bsearchBy len cmpAt).idx =
      bsLoop cmpAt len len 0 + if cmpAt (bsLoop cmpAt len len 0) = .lt then 1 else 0 := by
  rw [bsearchBy, if_neg hl]
  dsimp only
  cases cmpAt (bsLoop cmpAt len len 0) <;> rfl

/-- Shape of the comparator on a slice sorted for it. -/
structure Mono (len : Nat) (cmpAt : Nat → Ordering) : Prop where
  gt_up : ∀ i j, i ≤ j → j < len → cmpAt i = .gt → cmpAt j = .gt
  lt_down : ∀ i j, i ≤ j → j < len → cmpAt j = .lt → cmpAt i = .lt

theorem bsLoop_spec (cmpAt : Nat → Ordering) (len : Nat) (hl : len ≠ 0)
    (gt_up : ∀ i j, i ≤ j → j < len → cmpAt i = .gt → cmpAt j = .gt) :
    (bsLoop cmpAt len len 0 = 0 ∨ cmpAt (bsLoop cmpAt len len 0) ≠ .gt) ∧
    ∀ j, bsLoop cmpAt len len 0 + 1 ≤ j → j < len → cmpAt j = .gt := by
  refine bsLoop_rule cmpAt
    (fun size base => (base = 0 ∨ cmpAt base ≠ .gt) ∧ ∀ j, base + size ≤ j → j < len → cmpAt j = .gt)
    (fun size base hs h => ?_) len len 0 (Nat.pos_of_ne_zero hl) (Nat.le_succ len)
    ⟨Or.inl rfl, fun j hj hjl => absurd hjl (Nat.not_lt.mpr (Nat.zero_add len ▸ hj))⟩
  split
  · next hc => exact ⟨h.1, fun j hj hjl => gt_up _ j (by omega) hjl hc⟩
  · next hc => exact ⟨Or.inr hc, fun j hj hjl => h.2 j (by omega) hjl⟩

theorem bsearchBy_spec (len : Nat) (cmpAt : Nat → Ordering) (hm : Mono len cmpAt) :
    match bsearchBy len cmpAt with
    | .ok i => i < len ∧ cmpAt i = .eq
    | .err i => i ≤ len ∧ (∀ j, j < i → cmpAt j = .lt) ∧ (∀ j, i ≤ j → j < len → cmpAt j = .gt) := by
  by_cases hl : len = 0
  · subst hl
    exact ⟨Nat.le_refl 0, fun j hj => absurd hj (Nat.not_lt_zero j),
      fun j _ hj => absurd hj (Nat.not_lt_zero j)⟩
  · have hb := bsLoop_lt cmpAt len hl
    obtain ⟨hz, hup⟩ := bsLoop_spec cmpAt len hl hm.gt_up
    rw [bsearchBy, if_neg hl]
    dsimp only
    generalize bsLoop cmpAt len len 0 = b at hb hz hup
    cases hc : cmpAt b with
    | eq => exact ⟨hb, hc⟩
    | lt => exact ⟨hb, fun j hj => hm.lt_down j b (by omega) hb hc, hup⟩
    | gt =>
      have hb0 : b = 0 := hz.resolve_right (fun h => h hc)
      subst hb0
      exact ⟨Nat.zero_le len, fun j hj => absurd hj (Nat.not_lt_zero j),
        fun j _ hjl => hm.gt_up 0 j (Nat.zero_le j) hjl hc⟩

theorem getD_mono {s : List Nat} (hs : s.Pairwise (· ≤ ·)) {i j : Nat} (hij : i ≤ j)
    (hj : j < s.length) : s.getD i 0 ≤ s.getD j 0 := by
  have hi : i < s.length := Nat.lt_of_le_of_lt hij hj
  rw [getD_eq_getElem 0 hi, getD_eq_getElem 0 hj]
  rcases Nat.lt_or_eq_of_le hij with h | rfl
  · exact List.pairwise_iff_getElem.mp hs i j hi hj h
  · exact Nat.le_refl _

theorem mono_of_sorted {s : List Nat} (hs : s.Pairwise (· ≤ ·)) (c : Nat → Ordering)
    (hgt : ∀ x y, x ≤ y → c x = .gt → c y = .gt) (hlt : ∀ x y, x ≤ y → c y = .lt → c x = .lt) :
    Mono s.length (fun i => c (s.getD i 0)) where
  gt_up _ _ hij hj := hgt _ _ (getD_mono hs hij hj)
  lt_down _ _ hij hj := hlt _ _ (getD_mono hs hij hj)

theorem bsLoop_pair (cmpA cmpB : Nat → Ordering) (hgt : ∀ i, cmpB i = .gt → cmpA i = .gt)
    (len : Nat) (hl : len ≠ 0) : bsLoop cmpA len len 0 ≤ bsLoop cmpB len len 0 := by
  -- the bases stay equal until `A` keeps its base where `B` moves up; from then on `A`'s window
  -- ends at most one past `B`'s base
  have := bsLoop_rule₂ cmpA cmpB (fun size bA bB => bA = bB ∨ bA + size ≤ bB + 1)
    (fun size bA bB hs h => ?_) len len 0 0 (Nat.pos_of_ne_zero hl) (Nat.le_succ len) (Or.inl rfl)
  · exact this.elim Nat.le_of_eq Nat.le_of_succ_le_succ
  · rcases h with rfl | h
    · by_cases hA : cmpA (bA + size / 2) = .gt
      · rw [if_pos hA]
        split
        · exact Or.inl rfl
        · exact Or.inr (by omega)
      · rw [if_neg hA, if_neg fun hB => hA (hgt _ hB)]
        exact Or.inl rfl
    · -- the end of `A`'s window does not go up, `B`'s base does not go down
      have hA := window_end_le (cmpA (bA + size / 2) = .gt) bA size
      have hB : bB ≤ if cmpB (bB + size / 2) = .gt then bB else bB + size / 2 := by
        split
        · exact Nat.le_refl bB
        · exact Nat.le_add_right bB _
      exact Or.inr (Nat.le_trans hA (Nat.le_trans h (Nat.add_le_add_right hB 1)))

/-- Rust 1.95's branch-free `binary_search_by` is monotone in the comparator on any slice, sorted
or not. -/
theorem bsearchBy_mono_any (len : Nat) (cmpA cmpB : Nat → Ordering)
    (hgt : ∀ i, cmpB i = .gt → cmpA i = .gt) (hlt : ∀ i, cmpA i = .lt → cmpB i = .lt) :
    (bsearchBy len cmpA).idx ≤ (bsearchBy len cmpB).idx := by
  by_cases hl : len = 0
  · subst hl; exact Nat.le_refl 0
  · rw [bsearchBy_idx len cmpA hl, bsearchBy_idx len cmpB hl]
    rcases Nat.lt_or_eq_of_le (bsLoop_pair cmpA cmpB hgt len hl) with h | h
    · split
      · exact Nat.le_trans h (Nat.le_add_right _ _)
      · exact Nat.le_trans (Nat.le_of_lt h) (Nat.le_add_right _ _)
    · rw [← h]
      split
      · next hA => rw [if_pos (hlt _ hA)]; exact Nat.le_refl _
      · exact Nat.le_add_right _ _

namespace ZCurve

/-- What `par_sort_unstable_by_key` is trusted to do: return a permutation of the slice
that is sorted by the key (nothing about the order of equal keys). -/
def SortSpec (sortBy : (Nat → Nat) → List Nat → List Nat) : Prop :=
  ∀ key l, (sortBy key l).Perm l ∧ (sortBy key l).Pairwise (fun a b => key a ≤ key b)

theorem insertByKey_eq (key : Nat → Nat) (x : Nat) (l : List Nat) :
    insertByKey key x l = insBy (fun a b => !decide (key a ≤ key b)) x l := by
  induction l with
  | nil => rfl
  | cons y ys ih => simp only [insertByKey, insBy, ih, Bool.not_eq_true', decide_eq_false_iff_not, ite_not]

theorem perm_insertByKey (key : Nat → Nat) (x : Nat) (l : List Nat) : (insertByKey key x l).Perm (x :: l) :=
  insertByKey_eq key x l ▸ perm_insBy _ x l

theorem pairwise_insertByKey (key : Nat → Nat) (x : Nat) {l : List Nat}
    (h : l.Pairwise (fun a b => key a ≤ key b)) : (insertByKey key x l).Pairwise (fun a b => key a ≤ key b) :=
  insertByKey_eq key x l ▸ pairwise_insBy Nat.le_trans (fun y hy => Nat.le_of_not_le (by simpa using hy))
    (fun y hy => by simpa using hy) h

/-- The insertion sort used by the C01 driver is an admissible `par_sort_unstable_by_key`
(`SortSpec` is not vacuous). -/
theorem sortByKey_spec : SortSpec sortByKey := by
  intro key l
  induction l with
  | nil => exact ⟨List.Perm.refl _, List.Pairwise.nil⟩
  | cons x xs ih =>
    exact ⟨(perm_insertByKey key x _).trans (ih.1.cons x), pairwise_insertByKey key x ih.2⟩

end ZCurve

theorem insertAsc_eq (x : Nat) : ∀ l, insertAsc x l = ZCurve.insertByKey id x l
  | [] => rfl
  | y :: ys => by rw [insertAsc, ZCurve.insertByKey, insertAsc_eq x ys]; rfl

theorem sortAsc_eq : ∀ l, sortAsc l = ZCurve.sortByKey id l
  | [] => rfl
  | x :: xs => by rw [sortAsc, ZCurve.sortByKey, sortAsc_eq xs, insertAsc_eq]

theorem pairwise_sortAsc (l : List Nat) : (sortAsc l).Pairwise (· ≤ ·) :=
  sortAsc_eq l ▸ (ZCurve.sortByKey_spec id l).2

theorem perm_sortAsc (l : List Nat) : (sortAsc l).Perm l :=
  sortAsc_eq l ▸ (ZCurve.sortByKey_spec id l).1

namespace ZCurve

theorem numChunks_mul (q r : Nat) (hq : 0 < q) : numChunks (q * r) q = r := by
  unfold numChunks
  cases r with
  | zero => rfl
  | succ r' =>
    rw [if_neg (Nat.mul_ne_zero (Nat.ne_of_gt hq) (Nat.succ_ne_zero r')), Nat.mul_succ,
      Nat.add_sub_assoc hq, Nat.mul_add_div hq, Nat.div_eq_of_lt (Nat.sub_lt hq Nat.one_pos)]

theorem chunkId_lo (n k pos : Nat) (h : pos < (n / k + 1) * (n % k)) :
    chunkId n k pos = pos / (n / k + 1) := by
  simp only [chunkId, if_pos h]

theorem chunkId_hi (n k pos : Nat) (h : ¬ pos < (n / k + 1) * (n % k)) :
    chunkId n k pos = n % k + (pos - (n / k + 1) * (n % k)) / max (n / k) 1 := by
  simp only [chunkId, if_neg h, numChunks_mul _ _ (Nat.succ_pos _)]

theorem div_block (pos : Nat) {q : Nat} (hq : 0 < q) :
    pos / q * q ≤ pos ∧ pos < (pos / q + 1) * q :=
  ⟨Nat.div_mul_le_self pos q, Nat.mul_comm q _ ▸ Nat.lt_mul_div_succ pos hq⟩

theorem chunkStart_lo (n k : Nat) {c : Nat} (h : c ≤ n % k) :
    chunkStart n k c = c * (n / k + 1) := by
  rw [chunkStart, Nat.min_eq_left h, Nat.mul_succ]

theorem chunkStart_hi (n k e : Nat) :
    chunkStart n k (n % k + e) = (n / k + 1) * (n % k) + e * (n / k) := by
  rw [chunkStart, Nat.min_eq_right (Nat.le_add_right _ e), Nat.add_mul, Nat.succ_mul,
    Nat.mul_comm (n % k)]
  omega

theorem chunk_mem_interval (n k pos : Nat) (hk : 1 ≤ k) (hp : pos < n) :
    chunkStart n k (chunkId n k pos) ≤ pos ∧ pos < chunkStart n k (chunkId n k pos + 1) := by
  by_cases h : pos < (n / k + 1) * (n % k)
  · have hc : pos / (n / k + 1) < n % k := Nat.div_lt_of_lt_mul h
    rw [chunkId_lo n k pos h, chunkStart_lo n k (Nat.le_of_lt hc), chunkStart_lo n k hc]
    exact div_block pos (Nat.succ_pos _)
  · -- `n < k` would give `n / k = 0` and `n = n % k ≤ pos`
    have hP : 0 < n / k := Nat.div_pos (Nat.le_of_not_lt fun hnk => by
      rw [Nat.div_eq_of_lt hnk, Nat.mod_eq_of_lt hnk] at h; omega) hk
    rw [chunkId_hi n k pos h, Nat.max_eq_left hP, Nat.add_assoc, chunkStart_hi, chunkStart_hi]
    have := div_block (pos - (n / k + 1) * (n % k)) hP
    omega

theorem chunkStart_mono (n k : Nat) {a b : Nat} (h : a ≤ b) : chunkStart n k a ≤ chunkStart n k b := by
  unfold chunkStart
  have := Nat.mul_le_mul_right (n / k) h
  omega

theorem chunk_le_of_interval (n k : Nat) {a b x y : Nat} (hx : chunkStart n k a ≤ x) (hxy : x ≤ y)
    (hy : y < chunkStart n k (b + 1)) : a ≤ b :=
  Nat.le_of_not_lt fun h => Nat.lt_irrefl y
    (Nat.lt_of_lt_of_le hy (Nat.le_trans (chunkStart_mono n k h) (Nat.le_trans hx hxy)))

theorem chunk_interval (n k pos c : Nat) (hk : 1 ≤ k) (hp : pos < n) :
    chunkId n k pos = c ↔ chunkStart n k c ≤ pos ∧ pos < chunkStart n k (c + 1) := by
  have hm := chunk_mem_interval n k pos hk hp
  constructor
  · intro h; subst h; exact hm
  · intro ⟨h1, h2⟩
    exact Nat.le_antisymm (chunk_le_of_interval n k hm.1 (Nat.le_refl pos) h2)
      (chunk_le_of_interval n k h1 (Nat.le_refl pos) hm.2)

theorem chunkStart_zero (n k : Nat) : chunkStart n k 0 = 0 := by simp [chunkStart]

theorem chunkStart_last (n k : Nat) (hk : 1 ≤ k) : chunkStart n k k = n := by
  rw [chunkStart, Nat.min_eq_right (Nat.le_of_lt (Nat.mod_lt n hk))]
  exact Nat.div_add_mod n k

theorem chunkStart_succ (n k c : Nat) :
    chunkStart n k (c + 1) = chunkStart n k c + (n / k + if c < n % k then 1 else 0) := by
  rw [chunkStart, chunkStart, Nat.succ_mul]
  split
  · next h =>
    rw [Nat.min_eq_left h, Nat.min_eq_left (Nat.le_of_lt h)]
    exact Nat.add_add_add_comm _ _ c 1
  · next h =>
    have h := Nat.le_of_not_lt h
    rw [Nat.min_eq_right h, Nat.min_eq_right (Nat.le_succ_of_le h)]
    exact Nat.add_right_comm ..

theorem count_interval {a d n : Nat} (h : a + d ≤ n) :
    ((List.range n).filter (fun p => decide (a ≤ p ∧ p < a + d))).length = d := by
  obtain ⟨e, rfl⟩ := Nat.exists_eq_add_of_le h
  -- `0..a+d+e` is `0..a`, `a..a+d`, `a+d..a+d+e` in a row; the filter keeps the middle piece
  rw [List.range_eq_range', ← List.range'_append_1, ← List.range'_append_1, Nat.zero_add,
    List.filter_append, List.filter_append, List.filter_eq_nil_iff.mpr, List.filter_eq_self.mpr,
    List.filter_eq_nil_iff.mpr, List.nil_append, List.append_nil, List.length_range']
  all_goals intro p hp; rw [List.mem_range'_1] at hp; rw [decide_eq_true_eq]; omega

/-- Size of part `c`: the number of positions that get id `c`. -/
def chunkSize (n k c : Nat) : Nat :=
  ((List.range n).filter (fun pos => decide (chunkId n k pos = c))).length

theorem chunkSize_eq (n k c : Nat) (hk : 1 ≤ k) (hc : c < k) :
    chunkSize n k c = n / k + (if c < n % k then 1 else 0) := by
  have hcongr : (List.range n).filter (fun pos => decide (chunkId n k pos = c)) =
      (List.range n).filter (fun p => decide (chunkStart n k c ≤ p ∧ p < chunkStart n k (c + 1))) :=
    List.filter_congr fun x hx =>
      decide_eq_decide.mpr (chunk_interval n k x c hk (List.mem_range.mp hx))
  have hle := chunkStart_mono n k (show c + 1 ≤ k from hc)
  rw [chunkStart_last n k hk, chunkStart_succ] at hle
  rw [chunkSize, hcongr, chunkStart_succ, count_interval hle]

/-- The Z-order cell of point `i` relative to the box at `path`, `d` levels deep: the
regions it falls in, outermost first (`region … .unwrap_or(0)` then `sub_mbr(region)`;
this is what the `codes` hook computes from the root box). -/
def relCode (region : List Nat → Nat → Nat) : Nat → List Nat → Nat → List Nat
  | 0, _, _ => []
  | d + 1, path, i => region path i :: relCode region d (path ++ [region path i]) i

/-- Lexicographic `≤` on cell codes (of equal length: numeric order of the Z-hash). -/
def lexLe : List Nat → List Nat → Prop
  | [], _ => True
  | _ :: _, [] => False
  | a :: as, b :: bs => a < b ∨ (a = b ∧ lexLe as bs)

theorem lexLe_refl : ∀ l, lexLe l l
  | [] => trivial
  | _ :: as => Or.inr ⟨rfl, lexLe_refl as⟩

theorem cmpLG_lt {a r : Nat} : (if a < r then Ordering.lt else Ordering.gt) = Ordering.lt ↔ a < r := by
  split <;> simp [*]

theorem cmpLG_gt {a r : Nat} : (if a < r then Ordering.lt else Ordering.gt) = Ordering.gt ↔ ¬ a < r := by
  split <;> simp [*]

theorem cmpLG_ne_eq {a r : Nat} : (if a < r then Ordering.lt else Ordering.gt) ≠ Ordering.eq := by
  split <;> simp

def bpos (regs : List Nat) (r : Nat) : Nat :=
  (bsearchBy regs.length (fun i => if regs.getD i 0 < r then Ordering.lt else Ordering.gt)).idx

/-- The comparator never answers `Equal`, so `unwrap_err` does not panic. -/
theorem boundary_spec (regs : List Nat) (hs : regs.Pairwise (· ≤ ·)) (r : Nat) :
    boundary regs r = some (bpos regs r) ∧ bpos regs r ≤ regs.length ∧
    (∀ j, j < bpos regs r → regs.getD j 0 < r) ∧
    (∀ j, bpos regs r ≤ j → j < regs.length → r ≤ regs.getD j 0) := by
  have h := bsearchBy_spec _ _ (mono_of_sorted hs (fun x => if x < r then Ordering.lt else Ordering.gt)
    (fun x y hxy h => by rw [cmpLG_gt] at h ⊢; omega) (fun x y hxy h => by rw [cmpLG_lt] at h ⊢; omega))
  unfold boundary bpos
  generalize bsearchBy _ _ = res at h ⊢
  cases res with
  | ok i => exact absurd h.2 cmpLG_ne_eq
  | err i =>
    exact ⟨rfl, h.1, fun j hj => cmpLG_lt.mp (h.2.1 j hj),
      fun j hj hjl => Nat.le_of_not_lt (cmpLG_gt.mp (h.2.2 j hj hjl))⟩

theorem bpos_mono (regs : List Nat) {r r' : Nat} (h : r ≤ r') : bpos regs r ≤ bpos regs r' :=
  bsearchBy_mono_any _ _ _ (fun i hi => by rw [cmpLG_gt] at hi ⊢; omega)
    (fun i hi => by rw [cmpLG_lt] at hi ⊢; omega)

theorem bpos_zero (regs : List Nat) (hs : regs.Pairwise (· ≤ ·)) : bpos regs 0 = 0 :=
  Nat.eq_zero_of_not_pos fun h => Nat.not_lt_zero _ ((boundary_spec regs hs 0).2.2.1 0 h)

theorem lt_of_mem_take_bpos {regs : List Nat} (hs : regs.Pairwise (· ≤ ·)) {r x : Nat}
    (h : x ∈ regs.take (bpos regs r)) : x < r := by
  obtain ⟨i, hi, rfl⟩ := List.mem_take_iff_getElem.mp h
  have hi := Nat.lt_min.mp hi
  exact getD_eq_getElem 0 hi.2 ▸ (boundary_spec regs hs r).2.2.1 i hi.1

theorem le_of_mem_drop_bpos {regs : List Nat} (hs : regs.Pairwise (· ≤ ·)) {r x : Nat}
    (h : x ∈ regs.drop (bpos regs r)) : r ≤ x := by
  obtain ⟨i, hi, rfl⟩ := List.mem_drop_iff_getElem.mp h
  have hi : bpos regs r + i < regs.length := Nat.add_comm i _ ▸ hi
  exact getD_eq_getElem 0 hi ▸ (boundary_spec regs hs r).2.2.2 _ (Nat.le_add_right _ i) hi

/-- `split_at_mut_many` at the positions `b (s + 1), …, b (s + m)` of `l`, the part before `b s`
being cut off already: no panic, and piece `r` lies after `b r` and, unless it is the last one,
before `b (r + 1)`. -/
theorem splitAtMany_map_range' {α} (l : List α) (b : Nat → Nat) (hb : ∀ r, b r ≤ b (r + 1))
    (hl : ∀ r, b r ≤ l.length) : ∀ m s, ∃ out,
      splitAtMany (l.drop (b s)) (b s) ((List.range' (s + 1) m).map b) = some out ∧
      out.flatten = l.drop (b s) ∧
      ∀ x ∈ out.zipIdx s, ∀ a ∈ x.1,
        a ∈ l.drop (b x.2) ∧ (x.2 < s + m → a ∈ l.take (b (x.2 + 1))) := by
  intro m
  induction m with
  | zero =>
    intro s
    refine ⟨[l.drop (b s)], rfl, List.flatten_singleton, fun x hx a ha => ?_⟩
    obtain rfl := List.mem_singleton.mp hx
    exact ⟨ha, fun h => absurd h (Nat.lt_irrefl s)⟩
  | succ m ih =>
    intro s
    obtain ⟨out, ho, hf, hp⟩ := ih (s + 1)
    have hd : (l.drop (b s)).drop (b (s + 1) - b s) = l.drop (b (s + 1)) := by
      rw [List.drop_drop, Nat.add_sub_cancel' (hb s)]
    refine ⟨(l.drop (b s)).take (b (s + 1) - b s) :: out, ?_, ?_, fun x hx a ha => ?_⟩
    · rw [List.range'_succ, List.map_cons, splitAtMany, if_neg (Nat.not_lt.mpr (hb s))]
      dsimp only
      rw [if_neg (Nat.not_lt.mpr (List.length_drop ▸ Nat.sub_le_sub_right (hl (s + 1)) _)),
        Nat.add_sub_cancel' (hb s), hd, ho]
      rfl
    · rw [List.flatten_cons, hf, ← hd, List.take_append_drop]
    · rw [List.zipIdx_cons, List.mem_cons] at hx
      rcases hx with rfl | hx
      · exact ⟨List.mem_of_mem_take ha,
          fun _ => List.mem_of_mem_drop (List.drop_take (l := l) ▸ ha)⟩
      · exact ⟨(hp x hx a ha).1, fun h => (hp x hx a ha).2 (Nat.add_right_comm s m 1 ▸ h)⟩

theorem split_regions (key : Nat → Nat) (m : Nat) (sorted : List Nat)
    (hs : (sorted.map key).Pairwise (· ≤ ·)) (hkey : ∀ a, key a < m + 1) :
    ∃ slices, splitAtMany sorted 0 ((List.range' 1 m).map (bpos (sorted.map key))) = some slices ∧
      slices.flatten = sorted ∧ ∀ x ∈ slices.zipIdx, ∀ a ∈ x.1, key a = x.2 := by
  obtain ⟨slices, hsl, hflat, hp⟩ := splitAtMany_map_range' sorted (bpos (sorted.map key))
    (fun r => bpos_mono _ (Nat.le_succ r))
    (fun r => List.length_map key ▸ (boundary_spec _ hs r).2.1) m 0
  rw [bpos_zero _ hs] at hsl hflat
  refine ⟨slices, hsl, hflat, fun x hx a ha => ?_⟩
  obtain ⟨h1, h2⟩ := hp x hx a ha
  refine Nat.le_antisymm ?_ (le_of_mem_drop_bpos hs (List.map_drop ▸ List.mem_map_of_mem h1))
  by_cases hx2 : x.2 < m
  · exact Nat.le_of_lt_succ (lt_of_mem_take_bpos hs
      (List.map_take ▸ List.mem_map_of_mem (h2 ((Nat.zero_add m).symm ▸ hx2))))
  · -- the last piece: no region above `m`
    exact Nat.le_trans (Nat.le_of_lt_succ (hkey a)) (Nat.le_of_not_lt hx2)

theorem pairwise_of_length_le_one {R : Nat → Nat → Prop} :
    ∀ (l : List Nat), l.length ≤ 1 → l.Pairwise R
  | [], _ => List.Pairwise.nil
  | [a], _ => List.pairwise_singleton R a
  | _ :: _ :: _, h => by simp at h

/-- The `slices.into_par_iter().enumerate().for_each(recurse)` step. -/
theorem mapM_slices (dimCells : Nat) (sortBy : (Nat → Nat) → List Nat → List Nat)
    (region : List Nat → Nat → Nat) (order : Nat) (path : List Nat)
    (IH : ∀ path' permu', ∃ out, sortRec dimCells sortBy region order path' permu' = some out ∧
      out.Perm permu' ∧
      out.Pairwise (fun a b => lexLe (relCode region order path' a) (relCode region order path' b))) :
    ∀ (L : List (List Nat)) (n : Nat), (∀ x ∈ L.zipIdx n, ∀ a ∈ x.1, region path a = x.2) →
      ∃ outs, (L.zipIdx n).mapM (fun (x : List Nat × Nat) =>
          sortRec dimCells sortBy region order (path ++ [x.2]) x.1) = some outs ∧
        outs.flatten.Perm L.flatten ∧
        outs.flatten.Pairwise (fun a b =>
          lexLe (relCode region (order + 1) path a) (relCode region (order + 1) path b)) := by
  intro L
  induction L with
  | nil => exact fun n _ => ⟨[], rfl, List.Perm.refl _, List.Pairwise.nil⟩
  | cons s ss ih =>
    intro n hb
    rw [List.zipIdx_cons] at hb
    have hs : ∀ a ∈ s, region path a = n := hb (s, n) List.mem_cons_self
    have hss := fun x hx => hb x (List.mem_cons_of_mem _ hx)
    obtain ⟨o, ho, hop, hopw⟩ := IH (path ++ [n]) s
    obtain ⟨outs', hm, hp, hpw⟩ := ih (n + 1) hss
    refine ⟨o :: outs', ?_, hop.append hp, ?_⟩
    · rw [List.zipIdx_cons, List.mapM_cons, ho, hm]
      rfl
    · rw [List.flatten_cons, List.pairwise_append]
      refine ⟨hopw.imp_of_mem fun {a b} ha hb' hab => ?_, hpw, fun a ha b hb' => ?_⟩
      · -- same region `n`: decided by the deeper levels
        simp only [relCode, hs a (hop.mem_iff.mp ha), hs b (hop.mem_iff.mp hb')]
        exact Or.inr ⟨rfl, hab⟩
      · -- `b` lies in a later slice, so in a larger region
        obtain ⟨s', hs', hbs'⟩ := List.mem_flatten.mp (hp.mem_iff.mp hb')
        obtain ⟨⟨_, j⟩, hx, rfl⟩ := List.mem_map.mp ((List.zipIdx_map_fst (n + 1) ss).symm ▸ hs')
        simp only [relCode, hs a (hop.mem_iff.mp ha), hss _ hx b hbs']
        exact Or.inl (List.mem_zipIdx hx).1

theorem sortRec_spec (dimCells : Nat)
    (sortBy : (Nat → Nat) → List Nat → List Nat) (hs : SortSpec sortBy)
    (region : List Nat → Nat → Nat) (hreg : ∀ path i, region path i < dimCells) :
    ∀ order path permu, ∃ out, sortRec dimCells sortBy region order path permu = some out ∧
      out.Perm permu ∧
      out.Pairwise (fun a b => lexLe (relCode region order path a) (relCode region order path b)) := by
  obtain ⟨m, rfl⟩ := Nat.exists_eq_add_one_of_ne_zero (Nat.ne_zero_of_lt (hreg [] 0))
  intro order
  induction order with
  | zero => exact fun path permu => ⟨permu, rfl, List.Perm.refl _, List.pairwise_of_forall fun _ _ => trivial⟩
  | succ order ih =>
    intro path permu
    rw [sortRec]
    split
    · next hl => exact ⟨permu, rfl, List.Perm.refl _, pairwise_of_length_le_one _ hl⟩
    · dsimp only
      obtain ⟨hperm, hsorted⟩ := hs (region path) permu
      generalize sortBy (region path) permu = sorted at hperm hsorted
      have hregs : (sorted.map (region path)).Pairwise (· ≤ ·) := List.pairwise_map.mpr hsorted
      obtain ⟨slices, hsl, hflat, hbucket⟩ := split_regions (region path) m sorted hregs (hreg path)
      rw [Nat.add_sub_cancel, mapM_some _ _ _ fun r _ => (boundary_spec _ hregs r).1]
      dsimp only
      rw [hsl]
      dsimp only
      obtain ⟨outs, hm, hp, hpw⟩ := mapM_slices (m + 1) sortBy region order path ih slices 0 hbucket
      rw [hm]
      exact ⟨outs.flatten, rfl, (hflat ▸ hp).trans hperm, hpw⟩

theorem writeIds_eq (n k : Nat) (l p0 : List Nat) :
    writeIds n k l p0 = Par.disjointWrites p0 (l.zipIdx.map fun x => (x.1, chunkId n k x.2)) := by
  rw [writeIds, Par.disjointWrites, List.foldl_map]
  rfl

theorem writeIds_length (n k : Nat) (l p0 : List Nat) : (writeIds n k l p0).length = p0.length :=
  writeIds_eq n k l p0 ▸ Par.disjointWrites_length _ p0

theorem writeIds_get (n k : Nat) (l p0 : List Nat) (hnd : l.Nodup) (hlt : ∀ x ∈ l, x < p0.length)
    (pos : Nat) (h : pos < l.length) :
    (writeIds n k l p0).getD (l.getD pos 0) 0 = chunkId n k pos := by
  rw [getD_eq_getElem 0 h, List.getD_eq_getElem?_getD, writeIds_eq,
    Par.disjointWrites_get_of_mem _ l[pos] (chunkId n k pos) p0 ?_ ?_ (hlt _ (List.getElem_mem h))]
  · rfl
  · rw [List.map_map]
    exact (List.zipIdx_map_fst 0 l).symm ▸ hnd
  · exact List.mem_map.mpr
      ⟨(l[pos], pos), List.mem_zipIdx_iff_getElem?.mpr (List.getElem?_eq_getElem h), rfl⟩

end ZCurve

namespace Hilbert

theorem stepAll_length (n : Nat) (pos : Array Nat) (pw : Array Float) (total : Float) :
    ∀ (splits : List Split) (p : Nat) (acc : Float),
      (stepAll n pos pw total splits p acc).1.length = splits.length
  | [], _, _ => rfl
  | s :: ss, p, acc => by
    simp only [stepAll, List.length_cons]
    rw [stepAll_length n pos pw total ss]

theorem refine_length (n : Nat) (idxs : Array Nat) (ws : Array Float) :
    ∀ (fuel : Nat) (splits : List Split) (todo : Nat) (out : List Split),
      refine n idxs ws fuel splits todo = some out → out.length = splits.length := by
  intro fuel
  induction fuel with
  | zero =>
    intro splits todo out h
    cases todo with
    | zero => simp only [refine, Option.some.injEq] at h; rw [← h]
    | succ t => simp [refine] at h
  | succ f ih =>
    intro splits todo out h
    cases todo with
    | zero => simp only [refine, Option.some.injEq] at h; rw [← h]
    | succ t =>
      simp only [refine] at h
      rw [ih _ _ _ h, stepAll_length]

theorem quantiles_sorted_len (fuel : Nat) (idxs : List Nat) (ws : List Float) (n : Nat) (pos : List Nat)
    (h : quantiles fuel idxs ws n = some pos) : pos.Pairwise (· ≤ ·) ∧ pos.length = n - 1 := by
  simp only [quantiles, quantilesRaw, Option.map_eq_some_iff] at h
  obtain ⟨raw, ⟨out, hout, hraw⟩, hpos⟩ := h
  subst hpos
  refine ⟨pairwise_sortAsc raw, ?_⟩
  rw [(perm_sortAsc raw).length_eq, ← hraw, List.length_map, refine_length _ _ _ _ _ _ _ hout]
  simp

end Hilbert

theorem bsearchA_eq (s : Array Nat) (key : Nat) : bsearchA s key = bsearch s.toList key := by
  simp [bsearchA, bsearch, Array.getD_eq_getD_getElem?, List.getD_eq_getElem?_getD]

theorem partitionIndexedA_eq (idxs positions : List Nat) :
    Hilbert.partitionIndexedA idxs positions = Hilbert.partitionIndexed idxs positions := by
  simp [Hilbert.partitionIndexedA, Hilbert.partitionIndexed, Hilbert.assign, bsearchA_eq]

theorem ZCurve.writeIdsA_toList (n k : Nat) (perm : List Nat) (p0 : Array Nat) :
    (ZCurve.writeIdsA n k perm p0).toList = ZCurve.writeIds n k perm p0.toList := by
  unfold ZCurve.writeIdsA ZCurve.writeIds
  generalize perm.zipIdx = l
  induction l generalizing p0 with
  | nil => rfl
  | cons x xs ih => simp only [List.foldl_cons]; rw [ih]; simp

/-- The merge sort by key of the C09 driver is an admissible `par_sort_unstable_by_key`. -/
theorem ZCurve.mergeByKey_spec : ZCurve.SortSpec ZCurve.mergeByKey := by
  intro key l
  refine ⟨List.mergeSort_perm l _, ?_⟩
  have := List.pairwise_mergeSort (le := fun a b => decide (key a ≤ key b))
    (fun a b c hab hbc => by simp only [decide_eq_true_eq] at *; omega)
    (fun a b => by simp only [Bool.or_eq_true, decide_eq_true_eq]; omega) l
  exact this.imp (fun h => by simpa using h)

end Coupe.Sfc
