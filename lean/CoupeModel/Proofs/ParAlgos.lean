import CoupeModel.Model.Par
import CoupeModel.Model.Rcb
import CoupeModel.Proofs.Par
import CoupeModel.Proofs.Rcb
import CoupeModel.Props.C03
import CoupeModel.Props.C06

/-!
# Rcb under every schedule, over the exact instance `Coord Int`

`Model/Rcb.lean` evaluates the fold of `par_rcb_split` as one sequential chunk (`scan`).  `scanT`
evaluates the same 4-tuple reduction along an arbitrary `SplitTree` (`Par.parNearest`);
`splitT`/`recurseT`/`runT` are `split`/`recurse`/`run` with `scanT` in place of `scan`, the tree
being chosen per bisection node and per iteration of the cut search by an arbitrary function.
The last part (bounding box, store order: `runBB_eq_idsRes`) holds over any `Coord α` with
`OrderLawsOn`.
-/

namespace Coupe.ParAlgos

open Coupe.Rcb Coupe.Par

/-- The items of `points.par_iter().zip(weights).enumerate()` at one bisection:
position, coordinate on the split axis, weight (`Par.items`). -/
def parItems (items : List (Rcb.Item Int)) (coord : Nat) : List Par.Item :=
  Par.items (items.map (·.key coord)) (items.map (·.w))

/-- The model's `Scan` from the tuple of the reduction: `(None, _)` and
`(_, INFINITY)` both mean "no candidate". -/
def toScan (a : Par.Acc) : Scan Int :=
  ⟨a.count, a.weight,
    match a.idx, a.dist with
    | some i, .fin d => some (i, d)
    | _, _ => none⟩

/-- `par_rcb_split`'s `fold(..).reduce(..)` evaluated along the split tree `tr`. -/
def scanT (tr : SplitTree) (items : List (Rcb.Item Int)) (coord : Nat) (t : Int) : Scan Int :=
  toScan (parNearest t tr (parItems items coord))

/-- `recursive_bisection.rs: par_rcb_split` where iteration number `it` of the
cut search evaluates its reduction along the tree `trees it`.  Apart from
`scanT` this is `Rcb.split` verbatim. -/
def splitT (trees : Nat → SplitTree) (withinTol : Int → Int → Bool) (coord : Nat) (sum : Int)
    (items : List (Rcb.Item Int)) :
    Nat → Nat → Int → Int → Option Nat → Bool → Res (SplitOut Int)
  | 0, _, _, _, _, _ => .fuel
  | fuel + 1, it, min, max, prev, moved =>
    let t := Coord.mid min max
    let s := scanT (trees it) items coord t
    match s.nearest with
    | none =>
      if prev = some s.count then
        .ok ⟨items, [], sum, max, .allLeft, min, max, moved, it + 1⟩
      else splitT trees withinTol coord sum items fuel (it + 1) min t (some s.count) true
    | some (idx, nd) =>
      let exit? : Option Exit :=
        if prev = some s.count then some .plateau
        else if Coord.le max (Coord.add t nd) then some .noPointToMax
        else if withinTol s.wl sum then some .tolerance
        else none
      match exit? with
      | some e =>
        match reorderSplit items idx coord with
        | .oob => .oob
        | .fuel => .fuel
        | .ok (l, r) => .ok ⟨l, r, s.wl, t, e, min, max, moved, it + 1⟩
      | none =>
        if s.wl < sum - s.wl then
          splitT trees withinTol coord sum items fuel (it + 1) t max (some s.count) moved
        else splitT trees withinTol coord sum items fuel (it + 1) min t (some s.count) true

/-- `recursive_bisection.rs: rcb_recurse` where the cut search of the bisection
numbered `iterId` uses the trees `trees iterId 0, trees iterId 1, …` (node numbers
are unique in the recursion: `2·id+1`, `2·id+2`).  Apart from `splitT` this is
`Rcb.recurse` verbatim. -/
def recurseT (withinTol : Int → Int → Bool) (cfg : Cfg) (trees : Nat → Nat → SplitTree) :
    Nat → List (Rcb.Item Int) → Nat → Nat → Int → List Int → List Int → Res (Tree (NodeInfo Int))
  | _, [], _, _, _, _, _ => .ok .empty
  | 0, items, iterId, _, _, _, _ => .ok (.leaf iterId (items.map (·.id)))
  | k + 1, items, iterId, coord, sum, lo, hi =>
    let min := lo.getD coord Coord.zero
    let max := hi.getD coord Coord.zero
    match splitT (trees iterId) withinTol coord sum items cfg.fuel 0 min max none false with
    | .oob => .oob
    | .fuel => .fuel
    | .ok r =>
      match recurseT withinTol cfg trees k r.left (2 * iterId + 1) ((coord + 1) % cfg.dim)
              r.weightLeft lo (hi.set coord r.splitPos) with
      | .oob => .oob
      | .fuel => .fuel
      | .ok tl =>
        match recurseT withinTol cfg trees k r.right (2 * iterId + 2) ((coord + 1) % cfg.dim)
                (sum - r.weightLeft) (lo.set coord r.splitPos) hi with
        | .oob => .oob
        | .fuel => .fuel
        | .ok tr => .ok (.node ⟨coord, sum, min, max, r.weightLeft, r.splitPos, r.exit, r.iters⟩ tl tr)

/-- Everything rayon decides during one call of `rcb`. -/
structure RcbSched where
  /-- `weights.par_iter().cloned().sum()` -/
  sumTree : SplitTree
  /-- coordinate ↦ split tree of `BoundingBox::from_points`' `fold_with(..).reduce_with(..)` -/
  bbox : Nat → SplitTree
  /-- bisection node, iteration of its cut search ↦ split tree of the fold -/
  split : Nat → Nat → SplitTree
  /-- the order in which the leaves' `part.store(iter_id)` take effect
  (`rayon::join` of the two recursive calls, `par_iter_mut().for_each` inside a leaf) -/
  stores : List (Nat × Nat) → List (Nat × Nat)

/-- A schedule only reorders the stores. -/
def RcbSched.Valid (s : RcbSched) : Prop := ∀ ws : List (Nat × Nat), ws.Perm (s.stores ws)

/-- `Rcb.idsOfTree` with the stores performed in the schedule's order. -/
def idsOfTreeS {ι : Type} (stores : List (Nat × Nat) → List (Nat × Nat)) (n : Nat) (t : Tree ι) :
    List Nat :=
  let ids := scatter n (stores t.assign)
  let off := minNat ids
  ids.map (· - off)

/-- `Rcb.runBB` under the schedule `s`. -/
def runBBT (s : RcbSched) (withinTol : Int → Int → Bool) (cfg : Cfg) (iter : Nat)
    (pts : List (List Int)) (ws : List Int) (plen : Nat) (lo hi : List Int) : Outcome :=
  if ws.length ≠ plen then .lenMismatch
  else if pts.length ≠ plen then .lenMismatch
  else if pts.isEmpty then .ok []
  else
    match recurseT withinTol cfg s.split iter (mkItems pts ws) 0 0 (parSum s.sumTree ws) lo hi with
    | .oob => .oob
    | .fuel => .fuel
    | .ok t => .ok (idsOfTreeS s.stores plen t)

/-- `BoundingBox::from_points` under a schedule: per coordinate the
`fold_with((MAX, MIN), ..).reduce_with(..)` of `Par.parBBox` (`fmax`/`fmin` stand for
`f64::MAX`/`f64::MIN`). -/
def bboxT (trees : Nat → SplitTree) (fmax fmin : Int) (dim : Nat) (pts : List (List Int)) :
    List Int × List Int :=
  let mm := (List.range dim).map (fun c =>
    (parBBox fmax fmin (trees c) (pts.map (fun p => p.getD c 0))).getD (0, 0))
  (mm.map (·.1), mm.map (·.2))

/-- `Rcb.run` under the schedule `s`. -/
def runT (s : RcbSched) (fmax fmin : Int) (withinTol : Int → Int → Bool) (cfg : Cfg) (iter : Nat)
    (pts : List (List Int)) (ws : List Int) (plen : Nat) : Outcome :=
  let bb := bboxT s.bbox fmax fmin cfg.dim pts
  runBBT s withinTol cfg iter pts ws plen bb.1 bb.2

/-- `Rcb.runRib` under the schedule `s` (the frame `rotate` is a parameter, as in the model). -/
def runRibT {β : Type} (s : RcbSched) (fmax fmin : Int) (rotate : β → List Int)
    (withinTol : Int → Int → Bool) (cfg : Cfg) (iter : Nat) (pts : List β) (ws : List Int)
    (plen : Nat) : Outcome :=
  runT s fmax fmin withinTol cfg iter (pts.map rotate) ws plen

theorem parItems_eq (items : List (Rcb.Item Int)) (coord : Nat) :
    parItems items coord =
      items.zipIdx.map (fun x => (⟨x.2, x.1.key coord, x.1.w⟩ : Par.Item)) := by
  simp only [parItems, Par.items, List.zip_map', List.zipIdx_map, List.map_map]
  rfl

theorem mem_parItems (items : List (Rcb.Item Int)) (coord : Nat) (x : Par.Item) :
    x ∈ parItems items coord ↔
      ∃ y, items[x.idx]? = some y ∧ x.coord = y.key coord ∧ x.weight = y.w := by
  rw [parItems_eq]
  simp only [List.mem_map, Prod.exists, List.mem_zipIdx_iff_getElem?]
  constructor
  · rintro ⟨y, i, hy, rfl⟩
    exact ⟨y, hy, rfl, rfl⟩
  · rintro ⟨y, hy, h1, h2⟩
    refine ⟨y, x.idx, hy, ?_⟩
    cases x
    simp_all

theorem filter_parItems (coord : Nat) (t : Int) : ∀ (items : List (Rcb.Item Int)) (k : Nat),
    (((items.zipIdx k).map (fun x => (⟨x.2, x.1.key coord, x.1.w⟩ : Par.Item))).filter
        (fun x => decide (x.coord - t < 0))).map (·.weight)
      = (items.filter (fun y => decide (y.key coord < t))).map (·.w)
  | [], _ => rfl
  | y :: ys, k => by
    have h : decide (y.key coord - t < 0) = decide (y.key coord < t) := by
      simp only [decide_eq_decide]; omega
    simp only [List.zipIdx_cons, List.map_cons, List.filter_cons, h]
    split <;> simp only [List.map_cons, filter_parItems coord t ys]

/-- Exactness of the distance: distinct coordinates have distinct distances to the
target.  True of the exact instance (`dist_exact_int`); FALSE for `f32`, where
`point - split_target` rounds and two different coordinates can be at the same
rounded distance – then the pivot VALUE (not only its index) can depend on the
split tree.  Every use below is explicit. -/
def DistExact : Prop := ∀ a b t : Int, (Coord.sub a t : Int) = Coord.sub b t → a = b

/-- "`s` summarises `items` correctly for the target `t`": all the cut search
reads.  Stated on the items themselves – no index of evaluation order occurs. -/
structure ScanSpec (items : List (Rcb.Item Int)) (coord : Nat) (t : Int) (s : Scan Int) : Prop where
  count : s.count = (items.filter (fun y => decide (y.key coord < t))).length
  wl : s.wl = ((items.filter (fun y => decide (y.key coord < t))).map (·.w)).sum
  none_iff : s.nearest = none ↔ ∀ y ∈ items, y.key coord < t
  attained : ∀ i d, s.nearest = some (i, d) →
    ∃ p, items[i]? = some p ∧ Coord.sub (p.key coord) t = d ∧ t ≤ p.key coord
  lower : ∀ i d, s.nearest = some (i, d) → ∀ y ∈ items, t ≤ y.key coord → d ≤ y.key coord - t

theorem toScan_nearest_eq_some {a : Par.Acc} {i : Nat} {d : Int} :
    (toScan a).nearest = some (i, d) ↔ a.idx = some i ∧ a.dist = .fin d := by
  obtain ⟨c, w, j, e⟩ := a
  cases j <;> cases e <;> simp [toScan]

theorem toScan_nearest_eq_none {a : Par.Acc} (h : a.idx = none ↔ a.dist = .inf) :
    (toScan a).nearest = none ↔ a.dist = .inf := by
  obtain ⟨c, w, j, e⟩ := a
  cases j with
  | none => simpa [toScan] using h.1 rfl
  | some j =>
    cases e with
    | inf => exact absurd (h.2 rfl) (by simp)
    | fin e => simp [toScan]

theorem scanT_spec (tr : SplitTree) (items : List (Rcb.Item Int)) (coord : Nat) (t : Int) :
    ScanSpec items coord t (scanT tr items coord t) := by
  have h := parNearest_spec t tr (parItems items coord)
  unfold scanT
  generalize parNearest t tr (parItems items coord) = a at h
  have hw := filter_parItems coord t items 0
  rw [← parItems_eq] at hw
  have hmem : ∀ y ∈ items, ∃ k, (⟨k, y.key coord, y.w⟩ : Par.Item) ∈ parItems items coord :=
    fun y hy => (List.mem_iff_getElem?.1 hy).imp fun k hk => (mem_parItems _ _ _).2 ⟨y, hk, rfl, rfl⟩
  refine ⟨?_, ?_, ?_, ?_, ?_⟩
  · exact h.count.trans (by simpa using congrArg List.length hw)
  · exact h.weight.trans (congrArg List.sum hw)
  · rw [toScan_nearest_eq_none h.idx_none, h.inf_iff]
    constructor
    · intro hall y hy
      obtain ⟨k, hk⟩ := hmem y hy
      have := hall _ hk
      simp only at this
      omega
    · intro hall x hx
      obtain ⟨y, hy, h1, _⟩ := (mem_parItems _ _ _).1 hx
      have := hall y (List.mem_iff_getElem?.2 ⟨_, hy⟩)
      omega
  · intro i d hs
    obtain ⟨hi, hd⟩ := toScan_nearest_eq_some.1 hs
    obtain ⟨x, hx, hxi, hx0, hxd⟩ := h.idx_some i hi
    obtain ⟨y, hy, h1, _⟩ := (mem_parItems _ _ _).1 hx
    rw [hd, Dist.fin.injEq] at hxd
    refine ⟨y, hxi ▸ hy, ?_, by omega⟩
    simp only [Coord.sub]
    omega
  · intro i d hs y hy hty
    obtain ⟨k, hk⟩ := hmem y hy
    simpa using h.lower d (toScan_nearest_eq_some.1 hs).2 _ hk (by simp only; omega)

/-- Accumulators reachable by the fold: a stored distance comes with an index. -/
def AccWF (a : Par.Acc) : Prop := a.idx = none → a.dist = .inf

theorem accWF_step (t : Int) (a : Par.Acc) (x : Par.Item) (h : AccWF a) :
    AccWF (nearestStep t a x) := by
  unfold nearestStep
  simp only
  split
  · exact h
  · split
    · intro h'; cases h'
    · exact h

theorem toScan_step (coord : Nat) (t : Int) (a : Par.Acc) (x : Rcb.Item Int × Nat)
    (h : AccWF a) :
    toScan (nearestStep t a ⟨x.2, x.1.key coord, x.1.w⟩) = scanStep coord t (toScan a) x := by
  obtain ⟨c, w, i, d⟩ := a
  simp only [AccWF] at h
  unfold nearestStep scanStep
  simp only [Coord.sub, Coord.lt, Coord.zero, Coord.ltInf]
  by_cases hneg : x.1.key coord - t < 0
  · simp only [hneg, ↓reduceIte, decide_true, toScan]
  · simp only [hneg, ↓reduceIte, decide_false, Bool.false_eq_true]
    cases i with
    | none =>
      obtain rfl := h rfl
      simp [toScan, Dist.lt]
    | some j =>
      cases d with
      | inf => simp [toScan, Dist.lt]
      | fin e => by_cases hlt : x.1.key coord - t < e <;> simp [toScan, Dist.lt, hlt]

theorem scanT_eq_scan (tr : SplitTree) (items : List (Rcb.Item Int)) (coord : Nat) (t : Int) :
    scanT tr items coord t = scan items coord t := by
  unfold scanT
  rw [parNearest_eq_foldl, parItems_eq, List.foldl_map]
  exact foldl_hom toScan AccWF (fun a x h => accWF_step t a _ h) (toScan_step coord t) _ _
    (fun _ => rfl)

theorem splitT_eq_split (trees : Nat → SplitTree) (wt : Int → Int → Bool) (coord : Nat) (sum : Int)
    (items : List (Rcb.Item Int)) :
    ∀ (fuel it : Nat) (mn mx : Int) (prev : Option Nat) (mv : Bool),
      splitT trees wt coord sum items fuel it mn mx prev mv =
        split wt coord sum items fuel it mn mx prev mv
  | 0, _, _, _, _, _ => rfl
  | fuel + 1, it, mn, mx, prev, mv => by
    simp only [splitT, split, scanT_eq_scan, splitT_eq_split trees wt coord sum items fuel]
    -- What is left differs in the names of the `match` auxiliaries only, which the unifier does not
    -- unfold under smart unfolding.
    set_option smartUnfolding false in rfl

theorem recurseT_eq_recurse (wt : Int → Int → Bool) (cfg : Cfg) (trees : Nat → Nat → SplitTree) :
    ∀ (k : Nat) (items : List (Rcb.Item Int)) (iterId coord : Nat) (sum : Int) (lo hi : List Int),
      recurseT wt cfg trees k items iterId coord sum lo hi =
        recurse wt cfg k items iterId coord sum lo hi
  | _, [], _, _, _, _, _ => by simp only [recurseT, recurse]
  | 0, _ :: _, _, _, _, _, _ => by simp only [recurseT, recurse]
  | k + 1, x :: xs, iterId, coord, sum, lo, hi => by
    simp only [recurseT, recurse, splitT_eq_split, recurseT_eq_recurse wt cfg trees k]
    set_option smartUnfolding false in rfl

theorem scanSpec_perm {items items' : List (Rcb.Item Int)} {coord : Nat} {t : Int} {s s' : Scan Int}
    (hp : items.Perm items') (hs : ScanSpec items coord t s) (hs' : ScanSpec items' coord t s') :
    s.count = s'.count ∧ s.wl = s'.wl ∧ (s.nearest = none ↔ s'.nearest = none) ∧
      ∀ i d i' d', s.nearest = some (i, d) → s'.nearest = some (i', d') → d = d' := by
  refine ⟨?_, ?_, ?_, ?_⟩
  · rw [hs.count, hs'.count]
    exact (hp.filter _).length_eq
  · rw [hs.wl, hs'.wl]
    exact perm_sum ((hp.filter _).map _)
  · rw [hs.none_iff, hs'.none_iff]
    exact ⟨fun h y hy => h y (hp.mem_iff.2 hy), fun h y hy => h y (hp.mem_iff.1 hy)⟩
  · intro i d i' d' h h'
    obtain ⟨p, hpi, hpd, hpt⟩ := hs.attained i d h
    obtain ⟨p', hpi', hpd', hpt'⟩ := hs'.attained i' d' h'
    have h1 := hs.lower i d h p' (hp.mem_iff.2 (List.mem_iff_getElem?.2 ⟨_, hpi'⟩)) hpt'
    have h2 := hs'.lower i' d' h' p (hp.mem_iff.1 (List.mem_iff_getElem?.2 ⟨_, hpi⟩)) hpt
    simp only [Coord.sub] at hpd hpd'
    omega

theorem perm_filter_of_sep {α : Type} (p : α → Bool) {l r items : List α}
    (hperm : (l ++ r).Perm items) (hl : ∀ x ∈ l, p x = true) (hr : ∀ x ∈ r, p x = false) :
    l.Perm (items.filter p) ∧ r.Perm (items.filter (fun x => !p x)) := by
  have h1 := hperm.filter p
  have h2 := hperm.filter (fun x => !p x)
  rw [List.filter_append] at h1 h2
  rw [List.filter_eq_self.2 hl, List.filter_eq_nil_iff.2 (fun x hx => by simp [hr x hx]),
    List.append_nil] at h1
  rw [List.filter_eq_nil_iff.2 (fun x hx => by simp [hl x hx]),
    List.filter_eq_self.2 (fun x hx => by simp [hr x hx]), List.nil_append] at h2
  exact ⟨h1, h2⟩

theorem reorderSplit_perm {items items' : List (Rcb.Item Int)} (hp : items.Perm items')
    (coord idx idx' : Nat) (p p' : Rcb.Item Int) (hi : items[idx]? = some p)
    (hi' : items'[idx']? = some p') (hk : p.key coord = p'.key coord) :
    ∃ l r l' r', reorderSplit items idx coord = .ok (l, r) ∧
      reorderSplit items' idx' coord = .ok (l', r') ∧
      (l ++ r).Perm items ∧ l.Perm l' ∧ r.Perm r' := by
  obtain ⟨l, r, e, hperm, hl, hr, _⟩ :=
    reorderSplit_spec intOrderLaws items idx coord p (fun _ _ => trivial) hi
  obtain ⟨l', r', e', hperm', hl', hr', _⟩ :=
    reorderSplit_spec intOrderLaws items' idx' coord p' (fun _ _ => trivial) hi'
  rw [← hk] at hl' hr'
  let q : Rcb.Item Int → Bool := fun x => Coord.lt (x.key coord) (p.key coord)
  obtain ⟨a1, a2⟩ := perm_filter_of_sep q hperm hl hr
  obtain ⟨b1, b2⟩ := perm_filter_of_sep q hperm' hl' hr'
  exact ⟨l, r, l', r', e, e', hperm, a1.trans ((hp.filter q).trans b1.symm),
    a2.trans ((hp.filter fun x => !q x).trans b2.symm)⟩

/-- The relation between the results of the cut search on two arrangements. -/
def SplitRel (items : List (Rcb.Item Int)) : Res (SplitOut Int) → Res (SplitOut Int) → Prop
  | .ok o, .ok o' => (o.left ++ o.right).Perm items ∧ o.left.Perm o'.left ∧ o.right.Perm o'.right ∧
      o.weightLeft = o'.weightLeft ∧ o.splitPos = o'.splitPos ∧ o.exit = o'.exit ∧
      o.lastMin = o'.lastMin ∧ o.lastMax = o'.lastMax ∧ o.maxMoved = o'.maxMoved ∧ o.iters = o'.iters
  | .fuel, .fuel => True
  | _, _ => False

theorem SplitRel.cases {items : List (Rcb.Item Int)} {r r' : Res (SplitOut Int)}
    (h : SplitRel items r r') :
    (r = .fuel ∧ r' = .fuel) ∨ ∃ o o', r = .ok o ∧ r' = .ok o' ∧ SplitRel items (.ok o) (.ok o') := by
  cases r <;> cases r' <;> try exact h.elim
  · exact .inr ⟨_, _, rfl, rfl, h⟩
  · exact .inl ⟨rfl, rfl⟩

theorem splitT_perm (hexact : DistExact) (trees trees' : Nat → SplitTree) (wt : Int → Int → Bool)
    (coord : Nat) (sum : Int) {items items' : List (Rcb.Item Int)} (hp : items.Perm items') :
    ∀ (fuel it : Nat) (mn mx : Int) (prev : Option Nat) (mv : Bool),
      SplitRel items (splitT trees wt coord sum items fuel it mn mx prev mv)
        (splitT trees' wt coord sum items' fuel it mn mx prev mv) := by
  intro fuel
  induction fuel with
  | zero => intro it mn mx prev mv; simp [splitT, SplitRel]
  | succ fuel ih =>
    intro it mn mx prev mv
    simp only [splitT]
    have hs := scanT_spec (trees it) items coord (Coord.mid mn mx)
    have hs' := scanT_spec (trees' it) items' coord (Coord.mid mn mx)
    generalize scanT (trees it) items coord (Coord.mid mn mx) = s at hs ⊢
    generalize scanT (trees' it) items' coord (Coord.mid mn mx) = s' at hs' ⊢
    obtain ⟨hc, hw, hn, hd⟩ := scanSpec_perm hp hs hs'
    obtain ⟨c, w, n⟩ := s
    obtain ⟨c', w', n'⟩ := s'
    simp only at hc hw hn hd
    subst hc hw
    rcases n with _ | ⟨idx, nd⟩ <;> rcases n' with _ | ⟨idx', nd'⟩
    · simp only
      split
      · simp only [SplitRel, List.append_nil, and_true]
        exact ⟨.refl _, hp, .refl _⟩
      · exact ih _ _ _ _ _
    · exact absurd (hn.1 rfl) (by simp)
    · exact absurd (hn.2 rfl) (by simp)
    · obtain rfl : nd = nd' := hd idx nd idx' nd' rfl rfl
      simp only
      split
      · next e he =>
        -- both pivots are at distance `nd`, hence – exactness – have the same coordinate
        obtain ⟨p, hpi, hpd, _⟩ := hs.attained idx nd rfl
        obtain ⟨p', hpi', hpd', _⟩ := hs'.attained idx' nd rfl
        obtain ⟨l, r, l', r', e1, e2, h1, h2, h3⟩ := reorderSplit_perm hp coord idx idx' p p' hpi hpi'
          (hexact _ _ _ (hpd.trans hpd'.symm))
        simp only [he, e1, e2, SplitRel, and_true]
        exact ⟨h1, h2, h3⟩
      · next he =>
        simp only [he]
        split <;> exact ih _ _ _ _ _

/-- The relation between the recursion trees of two arrangements: the same set of
stores `(cell, part id)`, and the cells are the items' cells. -/
def TreeRel {ι : Type} (ids : List Nat) : Res (Tree ι) → Res (Tree ι) → Prop
  | .ok t, .ok t' => t.assign.Perm t'.assign ∧ t.members.Perm ids
  | .fuel, .fuel => True
  | _, _ => False

theorem TreeRel.cases {ι : Type} {ids : List Nat} {a a' : Res (Tree ι)} (h : TreeRel ids a a') :
    (a = .fuel ∧ a' = .fuel) ∨
      ∃ t t', a = .ok t ∧ a' = .ok t' ∧ t.assign.Perm t'.assign ∧ t.members.Perm ids := by
  cases a <;> cases a' <;> try exact h.elim
  · exact .inr ⟨_, _, rfl, rfl, h⟩
  · exact .inl ⟨rfl, rfl⟩

theorem recurseT_perm (hexact : DistExact) (wt : Int → Int → Bool) (cfg : Cfg)
    (trees trees' : Nat → Nat → SplitTree) :
    ∀ (k : Nat) (items items' : List (Rcb.Item Int)) (iterId coord : Nat) (sum : Int) (lo hi : List Int),
      items.Perm items' →
      TreeRel (items.map (·.id)) (recurseT wt cfg trees k items iterId coord sum lo hi)
        (recurseT wt cfg trees' k items' iterId coord sum lo hi) := by
  intro k
  induction k with
  | zero =>
    intro items items' iterId coord sum lo hi hp
    cases items with
    | nil =>
      obtain rfl := hp.nil_eq
      simp [recurseT, TreeRel, Tree.assign, Tree.members]
    | cons x xs =>
      cases items' with
      | nil => exact absurd hp.eq_nil (by simp)
      | cons x' xs' =>
        simp only [recurseT, TreeRel, Tree.assign, Tree.members]
        exact ⟨(hp.map _).map _, .refl _⟩
  | succ k ih =>
    intro items items' iterId coord sum lo hi hp
    cases items with
    | nil =>
      obtain rfl := hp.nil_eq
      simp [recurseT, TreeRel, Tree.assign, Tree.members]
    | cons x xs =>
      cases items' with
      | nil => exact absurd hp.eq_nil (by simp)
      | cons x' xs' =>
        simp only [recurseT]
        rcases (splitT_perm hexact (trees iterId) (trees' iterId) wt coord sum hp cfg.fuel 0
          (lo.getD coord Coord.zero) (hi.getD coord Coord.zero) none false).cases with
          ⟨e, e'⟩ | ⟨o, o', e, e', hall, hl, hr, hw, hpos, _⟩
        · simp only [e, e', TreeRel]
        simp only [e, e', ← hw, ← hpos]
        rcases (ih o.left o'.left (2 * iterId + 1) ((coord + 1) % cfg.dim) o.weightLeft lo
          (hi.set coord o.splitPos) hl).cases with ⟨e1, e1'⟩ | ⟨tl, tl', e1, e1', ha1, hm1⟩
        · simp only [e1, e1', TreeRel]
        rcases (ih o.right o'.right (2 * iterId + 2) ((coord + 1) % cfg.dim) (sum - o.weightLeft)
          (lo.set coord o.splitPos) hi hr).cases with ⟨e2, e2'⟩ | ⟨tr, tr', e2, e2', ha2, hm2⟩
        · simp only [e1, e1', e2, e2', TreeRel]
        simp only [e1, e1', e2, e2', TreeRel, Tree.assign, Tree.members]
        refine ⟨ha1.append ha2, ?_⟩
        have := hm1.append hm2
        rw [← List.map_append] at this
        exact this.trans (hall.map _)

theorem scatter_perm (n : Nat) {a a' : List (Nat × Nat)} (hp : a.Perm a')
    (hnd : (a.map (·.1)).Nodup) : scatter n a = scatter n a' :=
  -- `f` is given: found by unification through `scatter` it costs twenty times as much
  congrArg Array.toList
    (foldl_perm_of_nodup_key (f := fun (a : Array Nat) (x : Nat × Nat) => a.setIfInBounds x.1 x.2)
      (·.1) hp hnd (fun _ _ _ h => Array.setIfInBounds_comm _ _ h) _)

/-- What the caller sees of a recursion result under a store order. -/
def idsRes {ι : Type} (stores : List (Nat × Nat) → List (Nat × Nat)) (n : Nat) :
    Res (Tree ι) → Outcome
  | .oob => .oob
  | .fuel => .fuel
  | .ok t => .ok (idsOfTreeS stores n t)

theorem idsOfTreeS_perm {ι : Type} {st st' : List (Nat × Nat) → List (Nat × Nat)}
    (hst : ∀ ws : List (Nat × Nat), ws.Perm (st ws)) (hst' : ∀ ws : List (Nat × Nat), ws.Perm (st' ws))
    (n : Nat) {t t' : Tree ι} (hp : t.assign.Perm t'.assign) (hnd : t.members.Nodup) :
    idsOfTreeS st n t = idsOfTreeS st' n t' := by
  have : scatter n (st t.assign) = scatter n (st' t'.assign) :=
    scatter_perm n ((hst _).symm.trans (hp.trans (hst' _)))
      (by rwa [← ((hst t.assign).map _).nodup_iff, assign_map_fst])
  simp only [idsOfTreeS, this]

theorem idsRes_of_rel {ι : Type} (st st' : List (Nat × Nat) → List (Nat × Nat))
    (hst : ∀ ws : List (Nat × Nat), ws.Perm (st ws)) (hst' : ∀ ws : List (Nat × Nat), ws.Perm (st' ws))
    (n : Nat) (ids : List Nat) (hnd : ids.Nodup) (r r' : Res (Tree ι)) (h : TreeRel ids r r') :
    idsRes st n r = idsRes st' n r' := by
  rcases h.cases with ⟨rfl, rfl⟩ | ⟨t, t', rfl, rfl, h1, h2⟩
  · rfl
  · exact congrArg Outcome.ok (idsOfTreeS_perm hst hst' n h1 (h2.nodup_iff.2 hnd))

/-- Two runs that agree past the checks of the input agree. -/
theorem ite_chain_congr {β : Type} {c1 c2 c3 : Prop} [Decidable c1] [Decidable c2] [Decidable c3]
    {a b c x y : β} (h : ¬c1 → ¬c2 → ¬c3 → x = y) :
    (if c1 then a else if c2 then b else if c3 then c else x) =
      if c1 then a else if c2 then b else if c3 then c else y := by
  by_cases h1 : c1
  · rw [if_pos h1, if_pos h1]
  by_cases h2 : c2
  · rw [if_neg h1, if_neg h1, if_pos h2, if_pos h2]
  by_cases h3 : c3
  · rw [if_neg h1, if_neg h1, if_neg h2, if_neg h2, if_pos h3, if_pos h3]
  · rw [if_neg h1, if_neg h1, if_neg h2, if_neg h2, if_neg h3, if_neg h3, h h1 h2 h3]

/-- The recursion tree is a bisection of the points, so its leaves store to distinct cells: the
stores may take effect in any order. -/
theorem runBB_eq_idsRes {α : Type} [Coord α] (ol : OrderLawsOn (fun _ : α => True))
    {stores : List (Nat × Nat) → List (Nat × Nat)} (hs : ∀ ws : List (Nat × Nat), ws.Perm (stores ws))
    (wt : Int → Int → Bool) (cfg : Cfg) (iter : Nat) (pts : List (List α)) (ws : List Int)
    (plen : Nat) (lo hi : List α) :
    runBB wt cfg iter pts ws plen lo hi =
      if ws.length ≠ plen then .lenMismatch
      else if pts.length ≠ plen then .lenMismatch
      else if pts.isEmpty then .ok []
      else idsRes stores plen (recurse wt cfg iter (mkItems pts ws) 0 0 ws.sum lo hi) := by
  unfold runBB runTree
  refine ite_chain_congr fun hw hpl _ => ?_
  have hw : ws.length = plen := Classical.byContradiction hw
  have hpl : pts.length = plen := Classical.byContradiction hpl
  cases hr : recurse wt cfg iter (mkItems pts ws) 0 0 ws.sum lo hi with
  | oob => rfl
  | fuel => rfl
  | ok t =>
    have hkey : ∀ x ∈ mkItems pts ws, ∀ c, x.key c = ptKey pts x.id c := by
      intro x hx c
      simp [Item.key, ptKey, List.getD_eq_getElem?_getD, mkItems_key pts ws x hx]
    obtain ⟨_, hperm⟩ := recurse_bisection ol wt cfg (ptKey pts) iter _ _ _ _ _ _ t hkey
      (fun _ _ _ => trivial) hr
    rw [mkItems_ids pts ws (hw.trans hpl.symm)] at hperm
    exact congrArg Outcome.ok (idsOfTreeS_perm (fun _ => .refl _) hs plen (.refl _)
      (hperm.nodup_iff.2 List.nodup_range))

theorem foldl_bbStep_eq (xs : List Int) (m : Int × Int) :
    xs.foldl (fun (m : Int × Int) v =>
      (if Coord.lt v m.1 then v else m.1, if Coord.lt m.2 v then v else m.2)) m = xs.foldl bbStep m := by
  congr 1
  funext m v
  simp [bbStep, Coord.lt]

theorem bboxT_eq (trees : Nat → SplitTree) (fmax fmin : Int) (dim : Nat) (pts : List (List Int))
    (hne : pts ≠ [])
    (hb : ∀ p ∈ pts, ∀ c, c < dim → fmin ≤ p.getD c 0 ∧ p.getD c 0 ≤ fmax) :
    bboxT trees fmax fmin dim pts = bbox dim pts := by
  unfold bboxT bbox
  have : ∀ c ∈ List.range dim,
      (parBBox fmax fmin (trees c) (pts.map (fun p => p.getD c 0))).getD (0, 0) =
      (minMax (pts.map (fun p => p.getD c (Coord.zero : Int)))).getD (Coord.zero, Coord.zero) := by
    intro c hc
    have hc := List.mem_range.1 hc
    rw [parBBox_schedule_free]
    cases pts with
    | nil => exact absurd rfl hne
    | cons p ps =>
      obtain ⟨h1, h2⟩ := hb p (by simp) c hc
      simp only [List.map_cons, minMax, Option.getD_some, List.foldl_cons, Coord.zero]
      rw [foldl_bbStep_eq]
      congr 1
      simp only [bbStep, Prod.mk.injEq]
      constructor <;> split <;> omega
  simp only [List.map_congr_left this]

theorem runBBT_empty (s : RcbSched) (wt : Int → Int → Bool) (cfg : Cfg) (iter : Nat)
    (ws : List Int) (plen : Nat) (lo hi lo' hi' : List Int) :
    runBBT s wt cfg iter [] ws plen lo hi = runBBT s wt cfg iter [] ws plen lo' hi' := by
  exact ite_chain_congr fun _ _ h => absurd rfl h

end Coupe.ParAlgos
