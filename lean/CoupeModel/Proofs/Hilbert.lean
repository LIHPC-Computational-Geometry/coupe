import CoupeModel.Model.Hilbert
import Mathlib.Tactic.Ring

/-!
# Table machines of the Hilbert encoders (C08)

Everything is proved for an arbitrary machine `m : Mach` from the finitely many table facts
`Valid m`: `run` and `unrun` are inverse, the index of a prefix is a prefix of the index, and
the decoder takes consecutive indices to neighbouring cells (induction on the order: the
leading index digit selects a sub-cube, `dec_split`).  `Valid m2` and `Valid m3` are decided
on the extracted tables.  The end of the file relates cells to their quadrant / octant
digit lists.
-/

namespace Coupe.Hilbert

/-- Along one axis: same sub-cube bit and same corner bit (no movement). -/
def sameB (qa xa qb eb : Nat) : Bool := qa == qb && xa == eb

/-- Along one axis: neighbouring sub-cubes and the corners face each other (unit step). -/
def stepB (qa xa qb eb : Nat) : Bool :=
  (qb == qa + 1 && xa == 1 && eb == 0) || (qa == qb + 1 && xa == 0 && eb == 1)

/-- Decidable adjacency test: sub-cube `q` (the curve leaves it at the corner with the
bits of `xq`) and sub-cube `q'` (the curve enters it at the corner with the bits of
`eq'`) touch along exactly one axis, and the two corners face each other. -/
def adjB (m : Mach) (q xq q' eq' : Nat) : Bool :=
  (stepB (m.b0 q) (m.b0 xq) (m.b0 q') (m.b0 eq') && sameB (m.b1 q) (m.b1 xq) (m.b1 q') (m.b1 eq')
      && sameB (m.b2 q) (m.b2 xq) (m.b2 q') (m.b2 eq')) ||
  (sameB (m.b0 q) (m.b0 xq) (m.b0 q') (m.b0 eq') && stepB (m.b1 q) (m.b1 xq) (m.b1 q') (m.b1 eq')
      && sameB (m.b2 q) (m.b2 xq) (m.b2 q') (m.b2 eq')) ||
  (sameB (m.b0 q) (m.b0 xq) (m.b0 q') (m.b0 eq') && sameB (m.b1 q) (m.b1 xq) (m.b1 q') (m.b1 eq')
      && stepB (m.b2 q) (m.b2 xq) (m.b2 q') (m.b2 eq'))

/-- The facts about the tables the theory needs; all of them are bounded
quantifications over states and digits, decided by the kernel on the extracted
tables (`m2_valid`, `m3_valid`). -/
structure Valid (m : Mach) : Prop where
  R_pos : 0 < m.R
  conf_lt : ∀ c, c < m.S → ∀ q, q < m.R → m.conf c q < m.S
  base_lt : ∀ c, c < m.S → ∀ q, q < m.R → m.base c q < m.R
  inv_lt : ∀ c, c < m.S → ∀ r, r < m.R → inv m c r < m.R
  inv_base : ∀ c, c < m.S → ∀ q, q < m.R → inv m c (m.base c q) = q
  base_inv : ∀ c, c < m.S → ∀ r, r < m.R → m.base c (inv m c r) = r
  bit_le : ∀ q, q < m.R → m.b0 q ≤ 1 ∧ m.b1 q ≤ 1 ∧ m.b2 q ≤ 1
  /-- entry corner: the first sub-cube's own entry corner is the same corner -/
  ent_fix : ∀ c, c < m.S → inv m (m.conf c (inv m c 0)) 0 = inv m c 0
  /-- exit corner -/
  ext_fix : ∀ c, c < m.S →
    inv m (m.conf c (inv m c (m.R - 1))) (m.R - 1) = inv m c (m.R - 1)
  /-- consecutive sub-cubes are glued exit corner to entry corner across one face -/
  adj : ∀ c, c < m.S → ∀ r, r < m.R - 1 →
    adjB m (inv m c r) (inv m (m.conf c (inv m c r)) (m.R - 1))
      (inv m c (r + 1)) (inv m (m.conf c (inv m c (r + 1))) 0) = true

theorem run_length (m : Mach) : ∀ ds c, (run m c ds).1.length = ds.length
  | [], _ => rfl
  | q :: qs, c => by simp [run, run_length m qs]

theorem unrun_length (m : Mach) : ∀ rs c, (unrun m c rs).1.length = rs.length
  | [], _ => rfl
  | r :: rs, c => by simp [unrun, unrun_length m rs]

theorem run_spec {m : Mach} (hv : Valid m) : ∀ ds c, c < m.S → (∀ d ∈ ds, d < m.R) →
    (∀ r ∈ (run m c ds).1, r < m.R) ∧ (run m c ds).2 < m.S ∧
      unrun m c (run m c ds).1 = (ds, (run m c ds).2)
  | [], c, hc, _ => by simp [run, unrun, hc]
  | q :: qs, c, hc, hd => by
    obtain ⟨hq, hqs⟩ := List.forall_mem_cons.1 hd
    have ih := run_spec hv qs _ (hv.conf_lt c hc q hq) hqs
    exact ⟨List.forall_mem_cons.2 ⟨hv.base_lt c hc q hq, ih.1⟩, ih.2.1,
      by simp only [run, unrun, hv.inv_base c hc q hq, ih.2.2]⟩

theorem unrun_spec {m : Mach} (hv : Valid m) : ∀ rs c, c < m.S → (∀ r ∈ rs, r < m.R) →
    (∀ q ∈ (unrun m c rs).1, q < m.R) ∧ (unrun m c rs).2 < m.S ∧
      run m c (unrun m c rs).1 = (rs, (unrun m c rs).2)
  | [], c, hc, _ => by simp [run, unrun, hc]
  | r :: rs, c, hc, hd => by
    obtain ⟨hr, hrs⟩ := List.forall_mem_cons.1 hd
    have hq := hv.inv_lt c hc r hr
    have ih := unrun_spec hv rs _ (hv.conf_lt c hc _ hq) hrs
    exact ⟨List.forall_mem_cons.2 ⟨hq, ih.1⟩, ih.2.1,
      by simp only [run, unrun, hv.base_inv c hc r hr, ih.2.2]⟩

theorem run_append (m : Mach) : ∀ a b c,
    run m c (a ++ b) = ((run m c a).1 ++ (run m (run m c a).2 b).1, (run m (run m c a).2 b).2)
  | [], b, c => by simp [run]
  | q :: qs, b, c => by simp [run, run_append m qs b]

theorem mul_add_div {P a b : Nat} (hb : b < P) : (a * P + b) / P = a := by
  rw [Nat.add_comm, Nat.add_mul_div_right _ _ (by omega), Nat.div_eq_of_lt hb, Nat.zero_add]

theorem mul_add_mod {P a b : Nat} (hb : b < P) : (a * P + b) % P = b := by
  rw [Nat.add_comm, Nat.add_mul_mod_self_right, Nat.mod_eq_of_lt hb]

theorem bit_mod {R : Nat} (k e n : Nat) : n % R ^ (k + (e + 1)) / R ^ k % R = n / R ^ k % R := by
  rw [Nat.pow_add, Nat.mod_mul_right_div_self, Nat.pow_succ]
  exact Nat.mod_mod_of_dvd _ (Nat.dvd_mul_left _ _)

theorem digits_length (R : Nat) : ∀ k n, (digits R k n).length = k
  | 0, _ => rfl
  | k + 1, n => by simp [digits, digits_length R k]

theorem digits_lt {R : Nat} (hR : 0 < R) : ∀ k n, ∀ d ∈ digits R k n, d < R
  | 0, _ => by simp [digits]
  | k + 1, n => List.forall_mem_cons.2 ⟨Nat.mod_lt _ hR, digits_lt hR k n⟩

theorem digits_mod {R : Nat} : ∀ k j n, k ≤ j → digits R k (n % R ^ j) = digits R k n
  | 0, _, _, _ => rfl
  | k + 1, j, n, h => by
    obtain ⟨e, rfl⟩ : ∃ e, j = k + (e + 1) := ⟨j - k - 1, by omega⟩
    simp only [digits, digits_mod k _ n (by omega : k ≤ k + (e + 1)), bit_mod]

theorem digits_mul_add {R : Nat} (k : Nat) {a b : Nat} (ha : a < R) (hb : b < R ^ k) :
    digits R (k + 1) (a * R ^ k + b) = a :: digits R k b := by
  rw [digits, mul_add_div hb, Nat.mod_eq_of_lt ha, ← digits_mod k k _ (Nat.le_refl k), mul_add_mod hb]

theorem digits_split (R : Nat) : ∀ a b z, digits R (a + b) z = digits R a (z / R ^ b) ++ digits R b z
  | 0, b, z => by simp [digits]
  | a + 1, b, z => by
    rw [show a + 1 + b = (a + b) + 1 by omega, digits, digits_split R a b z, digits,
      Nat.div_div_eq_div_mul, ← Nat.pow_add, Nat.add_comm b a]
    rfl

theorem digits_add_mul {R d : Nat} (k : Nat) (hd : d < R) (w : Nat) :
    digits R (k + 1) (d + R * w) = digits R k w ++ [d] := by
  rw [digits_split R k 1, Nat.pow_one, Nat.add_comm, Nat.mul_comm, mul_add_div hd]
  simp only [digits, Nat.pow_zero, Nat.div_one, mul_add_mod hd]

theorem ofDigits_digits (R : Nat) : ∀ k n, ofDigits R (digits R k n) = n % R ^ k
  | 0, n => by simp [digits, ofDigits, Nat.mod_one]
  | k + 1, n => by
    simp only [digits, ofDigits, digits_length, ofDigits_digits R k n]
    rw [Nat.mod_pow_succ, Nat.mul_comm, Nat.add_comm]

theorem ofDigits_lt {R : Nat} : ∀ ds : List Nat, (∀ d ∈ ds, d < R) → ofDigits R ds < R ^ ds.length
  | [], _ => by simp [ofDigits]
  | d :: ds, h => by
    obtain ⟨hd, hds⟩ := List.forall_mem_cons.1 h
    have ih := ofDigits_lt ds hds
    simp only [ofDigits, List.length_cons, Nat.pow_succ]
    calc d * R ^ ds.length + ofDigits R ds < (d + 1) * R ^ ds.length := by rw [Nat.succ_mul]; omega
      _ ≤ R * R ^ ds.length := Nat.mul_le_mul_right _ hd
      _ = R ^ ds.length * R := Nat.mul_comm _ _

theorem ofDigits_append (R : Nat) : ∀ a b : List Nat,
    ofDigits R (a ++ b) = ofDigits R a * R ^ b.length + ofDigits R b
  | [], b => by simp [ofDigits]
  | d :: a, b => by
    simp only [List.cons_append, ofDigits, ofDigits_append R a b, List.length_append, Nat.pow_add]
    ring

theorem digits_ofDigits {R : Nat} : ∀ ds : List Nat, (∀ d ∈ ds, d < R) →
    digits R ds.length (ofDigits R ds) = ds
  | [], _ => rfl
  | d :: ds, h => by
    obtain ⟨hd, hds⟩ := List.forall_mem_cons.1 h
    rw [List.length_cons, ofDigits, digits_mul_add _ hd (ofDigits_lt ds hds), digits_ofDigits ds hds]

theorem run_bij {m : Mach} (hv : Valid m) {c : Nat} (hc : c < m.S) {ds : List Nat}
    (hd : ∀ d ∈ ds, d < m.R) :
    ((run m c ds).1.length = ds.length ∧ (∀ r ∈ (run m c ds).1, r < m.R) ∧
      (unrun m c (run m c ds).1).1 = ds) ∧
    ((unrun m c ds).1.length = ds.length ∧ (∀ q ∈ (unrun m c ds).1, q < m.R) ∧
      (run m c (unrun m c ds).1).1 = ds) := by
  have h1 := run_spec hv ds c hc hd
  have h2 := unrun_spec hv ds c hc hd
  exact ⟨⟨run_length _ _ _, h1.1, by rw [h1.2.2]⟩, ⟨unrun_length _ _ _, h2.1, by rw [h2.2.2]⟩⟩

theorem ofDigits_run_lt {m : Mach} (hv : Valid m) {c : Nat} (hc : c < m.S) {ds : List Nat}
    (hd : ∀ d ∈ ds, d < m.R) : ofDigits m.R (run m c ds).1 < m.R ^ ds.length := by
  have h := ofDigits_lt _ (run_spec hv ds c hc hd).1
  rwa [run_length] at h

theorem dec_ofDigits_run {m : Mach} (hv : Valid m) {c : Nat} (hc : c < m.S) {ds : List Nat}
    (hd : ∀ d ∈ ds, d < m.R) : dec m c ds.length (ofDigits m.R (run m c ds).1) = cellOf m ds := by
  have h := run_spec hv ds c hc hd
  have hdig := digits_ofDigits _ h.1
  rw [run_length] at hdig
  rw [dec, hdig, h.2.2]

theorem ofDigits_run_unrun {m : Mach} (hv : Valid m) {c : Nat} (hc : c < m.S) (k h : Nat) :
    ofDigits m.R (run m c (unrun m c (digits m.R k h)).1).1 = h % m.R ^ k := by
  rw [(unrun_spec hv _ c hc (digits_lt hv.R_pos k h)).2.2, ofDigits_digits]

theorem ofDigits_run_snoc {m : Mach} (hv : Valid m) {c : Nat} (hc : c < m.S) {ds : List Nat}
    (hd : ∀ d ∈ ds, d < m.R) {d : Nat} (hd' : d < m.R) :
    ofDigits m.R (run m c (ds ++ [d])).1 / m.R = ofDigits m.R (run m c ds).1 := by
  have hb := hv.base_lt _ (run_spec hv ds c hc hd).2.1 d hd'
  simp only [run_append, ofDigits_append, run, ofDigits, List.length_cons, List.length_nil,
    Nat.pow_zero, Nat.mul_one, Nat.add_zero, Nat.zero_add, Nat.pow_one]
  exact mul_add_div hb

/-- Cell `p` of the sub-cube of side `P` that digit `q` names. -/
def subcell (m : Mach) (q P : Nat) (p : Nat × Nat × Nat) : Nat × Nat × Nat :=
  (m.b0 q * P + p.1, m.b1 q * P + p.2.1, m.b2 q * P + p.2.2)

theorem cellOf_cons (m : Mach) (q : Nat) (qs : List Nat) :
    cellOf m (q :: qs) = subcell m q (2 ^ qs.length) (cellOf m qs) := rfl

theorem cellOf_lt {m : Mach} (hv : Valid m) : ∀ ds : List Nat, (∀ d ∈ ds, d < m.R) →
    (cellOf m ds).1 < 2 ^ ds.length ∧ (cellOf m ds).2.1 < 2 ^ ds.length ∧
      (cellOf m ds).2.2 < 2 ^ ds.length
  | [], _ => by simp [cellOf]
  | q :: qs, h => by
    obtain ⟨hq, hqs⟩ := List.forall_mem_cons.1 h
    have hb := hv.bit_le q hq
    have ih := cellOf_lt hv qs hqs
    have h0 := Nat.mul_le_mul_right (2 ^ qs.length) hb.1
    have h1 := Nat.mul_le_mul_right (2 ^ qs.length) hb.2.1
    have h2 := Nat.mul_le_mul_right (2 ^ qs.length) hb.2.2
    simp only [cellOf_cons, subcell, List.length_cons, Nat.pow_succ]
    omega

theorem dec_split (m : Mach) (c k : Nat) {a b : Nat} (ha : a < m.R) (hb : b < m.R ^ k) :
    dec m c (k + 1) (a * m.R ^ k + b) =
      subcell m (inv m c a) (2 ^ k) (dec m (m.conf c (inv m c a)) k b) := by
  simp only [dec, digits_mul_add k ha hb, unrun, cellOf_cons, unrun_length, digits_length]

theorem l1_subcell (m : Mach) (q P : Nat) (p p' : Nat × Nat × Nat) :
    l1 (subcell m q P p) (subcell m q P p') = l1 p p' := by
  simp only [l1, subcell, dist1, Nat.add_sub_add_left]

/-- The corner of the `2^k` grid with the coordinate bits of digit `q` (`M = 2^k - 1`). -/
def corner (m : Mach) (q M : Nat) : Nat × Nat × Nat := (m.b0 q * M, m.b1 q * M, m.b2 q * M)

theorem bit_corner (b : Nat) {P : Nat} (hP : 1 ≤ P) : b * P + b * (P - 1) = b * (P * 2 - 1) := by
  rw [← Nat.mul_add]
  congr 1
  omega

theorem subcell_corner (m : Mach) (q : Nat) {P : Nat} (hP : 1 ≤ P) :
    subcell m q P (corner m q (P - 1)) = corner m q (P * 2 - 1) := by
  simp only [subcell, corner, bit_corner _ hP]

theorem dec_zero {m : Mach} (hv : Valid m) : ∀ k c, c < m.S →
    dec m c k 0 = corner m (inv m c 0) (2 ^ k - 1)
  | 0, c, _ => by simp [dec, digits, unrun, cellOf, corner]
  | k + 1, c, hc => by
    have he := hv.inv_lt c hc 0 hv.R_pos
    have h := dec_split m c k hv.R_pos (Nat.pow_pos hv.R_pos (n := k))
    rw [Nat.zero_mul, Nat.add_zero] at h
    rw [h, dec_zero hv k _ (hv.conf_lt c hc _ he), hv.ent_fix c hc,
      subcell_corner m _ Nat.one_le_two_pow, Nat.pow_succ]

theorem mul_sub_one_split {P R : Nat} (hP : 0 < P) (hR : 0 < R) :
    P * R - 1 = (R - 1) * P + (P - 1) := by
  obtain ⟨r, rfl⟩ : ∃ r, R = r + 1 := ⟨R - 1, by omega⟩
  rw [Nat.mul_succ, Nat.add_sub_cancel, Nat.mul_comm]
  omega

theorem dec_last {m : Mach} (hv : Valid m) : ∀ k c, c < m.S →
    dec m c k (m.R ^ k - 1) = corner m (inv m c (m.R - 1)) (2 ^ k - 1)
  | 0, c, _ => by simp [dec, digits, unrun, cellOf, corner]
  | k + 1, c, hc => by
    have hR := hv.R_pos
    have hRk : 0 < m.R ^ k := Nat.pow_pos hR
    have he := hv.inv_lt c hc (m.R - 1) (by omega)
    rw [Nat.pow_succ, mul_sub_one_split hRk hR, dec_split m c k (by omega) (by omega),
      dec_last hv k _ (hv.conf_lt c hc _ he), hv.ext_fix c hc, subcell_corner m _ Nat.one_le_two_pow,
      Nat.pow_succ]

theorem ax_same {qa xa qb eb : Nat} (P : Nat) (h : sameB qa xa qb eb = true) :
    dist1 (qa * P + xa * (P - 1)) (qb * P + eb * (P - 1)) = 0 := by
  simp only [sameB, Bool.and_eq_true, beq_iff_eq] at h
  simp only [h.1, h.2, dist1, Nat.sub_self]

theorem ax_step {qa xa qb eb P : Nat} (hP : 1 ≤ P) (ha : qa ≤ 1) (hb : qb ≤ 1)
    (h : stepB qa xa qb eb = true) :
    dist1 (qa * P + xa * (P - 1)) (qb * P + eb * (P - 1)) = 1 := by
  simp only [stepB, Bool.or_eq_true, Bool.and_eq_true, beq_iff_eq] at h
  rcases h with ⟨⟨rfl, rfl⟩, rfl⟩ | ⟨⟨rfl, rfl⟩, rfl⟩
  · obtain rfl : qa = 0 := by omega
    simp only [dist1, Nat.zero_mul, Nat.one_mul, Nat.zero_add, Nat.add_zero]
    omega
  · obtain rfl : qb = 0 := by omega
    simp only [dist1, Nat.zero_mul, Nat.one_mul, Nat.zero_add, Nat.add_zero]
    omega

theorem adj_step {m : Mach} (hv : Valid m) {q xq q' eq' P : Nat} (hP : 1 ≤ P)
    (hq : q < m.R) (hq' : q' < m.R) (h : adjB m q xq q' eq' = true) :
    l1 (subcell m q P (corner m xq (P - 1))) (subcell m q' P (corner m eq' (P - 1))) = 1 := by
  have hb := hv.bit_le q hq
  have hb' := hv.bit_le q' hq'
  simp only [adjB, Bool.or_eq_true, Bool.and_eq_true] at h
  simp only [l1, subcell, corner]
  rcases h with (⟨⟨h0, h1⟩, h2⟩ | ⟨⟨h0, h1⟩, h2⟩) | ⟨⟨h0, h1⟩, h2⟩
  · rw [ax_step hP hb.1 hb'.1 h0, ax_same P h1, ax_same P h2]
  · rw [ax_same P h0, ax_step hP hb.2.1 hb'.2.1 h1, ax_same P h2]
  · rw [ax_same P h0, ax_same P h1, ax_step hP hb.2.2 hb'.2.2 h2]

theorem dec_continuous {m : Mach} (hv : Valid m) : ∀ k c h, c < m.S → h + 1 < m.R ^ k →
    l1 (dec m c k h) (dec m c k (h + 1)) = 1
  | 0, _, h, _, hh => by simp at hh
  | k + 1, c, h, hc, hh => by
    have hP : 0 < m.R ^ k := Nat.pow_pos hv.R_pos
    obtain ⟨a, b, hb, rfl⟩ : ∃ a b, b < m.R ^ k ∧ h = a * m.R ^ k + b :=
      ⟨h / m.R ^ k, h % m.R ^ k, Nat.mod_lt _ hP, (Nat.div_add_mod' h _).symm⟩
    rw [Nat.pow_succ, Nat.mul_comm (m.R ^ k)] at hh
    have ha : a < m.R := Nat.lt_of_mul_lt_mul_right (a := m.R ^ k) (by omega)
    have hq := hv.inv_lt c hc a ha
    by_cases hb1 : b + 1 < m.R ^ k
    · -- both indices in sub-cube `a`
      rw [Nat.add_assoc, dec_split m c k ha hb, dec_split m c k ha hb1, l1_subcell]
      exact dec_continuous hv k _ b (hv.conf_lt c hc _ hq) hb1
    · -- last cell of sub-cube `a`, first cell of sub-cube `a + 1`
      obtain rfl : b = m.R ^ k - 1 := by omega
      have hnext : a * m.R ^ k + (m.R ^ k - 1) + 1 = (a + 1) * m.R ^ k + 0 := by
        rw [Nat.succ_mul]; omega
      have ha1 : a + 1 < m.R := Nat.lt_of_mul_lt_mul_right (a := m.R ^ k) (by rw [Nat.succ_mul]; omega)
      have hq' := hv.inv_lt c hc (a + 1) ha1
      rw [hnext, dec_split m c k ha hb, dec_split m c k ha1 hP,
        dec_last hv k _ (hv.conf_lt c hc _ hq), dec_zero hv k _ (hv.conf_lt c hc _ hq')]
      exact adj_step hv Nat.one_le_two_pow hq hq' (hv.adj c hc a (by omega))

/-- `Valid m` is a conjunction of bounded quantifications.  Deciding it as ONE proposition
lets the kernel look each table entry up once for all ten facts. -/
instance (m : Mach) : Decidable (Valid m) :=
  decidable_of_iff
    ((0 < m.R) ∧
      (∀ c, c < m.S → ∀ q, q < m.R → m.conf c q < m.S) ∧
      (∀ c, c < m.S → ∀ q, q < m.R → m.base c q < m.R) ∧
      (∀ c, c < m.S → ∀ r, r < m.R → inv m c r < m.R) ∧
      (∀ c, c < m.S → ∀ q, q < m.R → inv m c (m.base c q) = q) ∧
      (∀ c, c < m.S → ∀ r, r < m.R → m.base c (inv m c r) = r) ∧
      (∀ q, q < m.R → m.b0 q ≤ 1 ∧ m.b1 q ≤ 1 ∧ m.b2 q ≤ 1) ∧
      (∀ c, c < m.S → inv m (m.conf c (inv m c 0)) 0 = inv m c 0) ∧
      (∀ c, c < m.S → inv m (m.conf c (inv m c (m.R - 1))) (m.R - 1) = inv m c (m.R - 1)) ∧
      (∀ c, c < m.S → ∀ r, r < m.R - 1 →
        adjB m (inv m c r) (inv m (m.conf c (inv m c r)) (m.R - 1))
          (inv m c (r + 1)) (inv m (m.conf c (inv m c (r + 1))) 0) = true))
    ⟨fun ⟨h1, h2, h3, h4, h5, h6, h7, h8, h9, h10⟩ => ⟨h1, h2, h3, h4, h5, h6, h7, h8, h9, h10⟩,
     fun ⟨h1, h2, h3, h4, h5, h6, h7, h8, h9, h10⟩ => ⟨h1, h2, h3, h4, h5, h6, h7, h8, h9, h10⟩⟩

theorem m2_valid : Valid m2 := by decide +kernel

theorem m3_valid : Valid m3 := by decide +kernel

theorem mod_two_pow_succ (x k : Nat) : x % 2 ^ (k + 1) = x / 2 ^ k % 2 * 2 ^ k + x % 2 ^ k := by
  rw [Nat.mod_pow_succ, Nat.add_comm, Nat.mul_comm]

theorem m2_b0 (q : Nat) : m2.b0 q = q / 2 := rfl
theorem m2_b1 (q : Nat) : m2.b1 q = q % 2 := rfl
theorem m2_b2 (q : Nat) : m2.b2 q = 0 := rfl

theorem zdigits2_length : ∀ k x y, (zdigits2 k x y).length = k
  | 0, _, _ => rfl
  | k + 1, x, y => by simp [zdigits2, zdigits2_length k]

theorem zdigits2_lt : ∀ k x y, ∀ d ∈ zdigits2 k x y, d < m2.R
  | 0, _, _ => by simp [zdigits2]
  | k + 1, x, y => List.forall_mem_cons.2 ⟨by show _ < 4; omega, zdigits2_lt k x y⟩

theorem zdigits2_mod : ∀ k j x y, k ≤ j → zdigits2 k (x % 2 ^ j) (y % 2 ^ j) = zdigits2 k x y
  | 0, _, _, _, _ => rfl
  | k + 1, j, x, y, h => by
    obtain ⟨e, rfl⟩ : ∃ e, j = k + (e + 1) := ⟨j - k - 1, by omega⟩
    simp only [zdigits2, zdigits2_mod k _ x y (by omega : k ≤ k + (e + 1)), bit_mod]

theorem quad_bits : ∀ a : Nat, a < 2 → ∀ b : Nat, b < 2 →
    (2 * a + b) / 2 = a ∧ (2 * a + b) % 2 = b := by
  decide

theorem quad_of_bits : ∀ q : Nat, q < 4 → 2 * (q / 2 % 2) + q % 2 % 2 = q := by decide

theorem cellOf_zdigits2 : ∀ k x y, cellOf m2 (zdigits2 k x y) = (x % 2 ^ k, y % 2 ^ k, 0)
  | 0, x, y => by simp [zdigits2, cellOf, Nat.mod_one]
  | k + 1, x, y => by
    have two := Nat.two_pos
    obtain ⟨hx, hy⟩ := quad_bits _ (Nat.mod_lt (x / 2 ^ k) two) _ (Nat.mod_lt (y / 2 ^ k) two)
    simp only [zdigits2, cellOf_cons, subcell, cellOf_zdigits2 k x y, zdigits2_length, m2_b0, m2_b1,
      m2_b2, hx, hy, mod_two_pow_succ, Nat.zero_mul]

theorem zdigits2_cellOf : ∀ ds : List Nat, (∀ d ∈ ds, d < m2.R) →
    zdigits2 ds.length (cellOf m2 ds).1 (cellOf m2 ds).2.1 = ds
  | [], _ => rfl
  | q :: qs, h => by
    obtain ⟨hq, hqs⟩ := List.forall_mem_cons.1 h
    have hlt := cellOf_lt m2_valid qs hqs
    have ih := zdigits2_cellOf qs hqs
    rw [List.length_cons, zdigits2, ← zdigits2_mod _ _ _ _ (Nat.le_refl _)]
    simp only [cellOf_cons, subcell, mul_add_div hlt.1, mul_add_div hlt.2.1, mul_add_mod hlt.1,
      mul_add_mod hlt.2.1, ih, m2_b0, m2_b1, quad_of_bits q hq]

theorem zdigits2_succ : ∀ k x y,
    zdigits2 (k + 1) x y = zdigits2 k (x / 2) (y / 2) ++ [2 * (x % 2) + y % 2]
  | 0, x, y => by simp [zdigits2]
  | k + 1, x, y => by
    rw [zdigits2, zdigits2_succ k x y]
    simp only [zdigits2, List.cons_append, Nat.div_div_eq_div_mul, Nat.pow_succ, Nat.mul_comm]

theorem m3_b0 (q : Nat) : m3.b0 q = q / 4 := rfl
theorem m3_b1 (q : Nat) : m3.b1 q = q / 2 % 2 := rfl
theorem m3_b2 (q : Nat) : m3.b2 q = q % 2 := rfl

theorem zdigits3_length : ∀ k x y z, (zdigits3 k x y z).length = k
  | 0, _, _, _ => rfl
  | k + 1, x, y, z => by simp [zdigits3, zdigits3_length k]

theorem zdigits3_lt : ∀ k x y z, ∀ d ∈ zdigits3 k x y z, d < m3.R
  | 0, _, _, _ => by simp [zdigits3]
  | k + 1, x, y, z => List.forall_mem_cons.2 ⟨by show _ < 8; omega, zdigits3_lt k x y z⟩

theorem zdigits3_mod : ∀ k j x y z, k ≤ j →
    zdigits3 k (x % 2 ^ j) (y % 2 ^ j) (z % 2 ^ j) = zdigits3 k x y z
  | 0, _, _, _, _, _ => rfl
  | k + 1, j, x, y, z, h => by
    obtain ⟨e, rfl⟩ : ∃ e, j = k + (e + 1) := ⟨j - k - 1, by omega⟩
    simp only [zdigits3, zdigits3_mod k _ x y z (by omega : k ≤ k + (e + 1)), bit_mod]

theorem oct_bits : ∀ a : Nat, a < 2 → ∀ b : Nat, b < 2 → ∀ c : Nat, c < 2 →
    (4 * a + 2 * b + c) / 4 = a ∧ (4 * a + 2 * b + c) / 2 % 2 = b ∧ (4 * a + 2 * b + c) % 2 = c := by
  decide

theorem oct_of_bits : ∀ q : Nat, q < 8 → 4 * (q / 4 % 2) + 2 * (q / 2 % 2 % 2) + q % 2 % 2 = q := by decide

theorem cellOf_zdigits3 : ∀ k x y z,
    cellOf m3 (zdigits3 k x y z) = (x % 2 ^ k, y % 2 ^ k, z % 2 ^ k)
  | 0, x, y, z => by simp [zdigits3, cellOf, Nat.mod_one]
  | k + 1, x, y, z => by
    have two := Nat.two_pos
    obtain ⟨hx, hy, hz⟩ := oct_bits _ (Nat.mod_lt (x / 2 ^ k) two) _ (Nat.mod_lt (y / 2 ^ k) two) _
      (Nat.mod_lt (z / 2 ^ k) two)
    simp only [zdigits3, cellOf_cons, subcell, cellOf_zdigits3 k x y z, zdigits3_length, m3_b0, m3_b1,
      m3_b2, hx, hy, hz, mod_two_pow_succ]

theorem zdigits3_cellOf : ∀ ds : List Nat, (∀ d ∈ ds, d < m3.R) →
    zdigits3 ds.length (cellOf m3 ds).1 (cellOf m3 ds).2.1 (cellOf m3 ds).2.2 = ds
  | [], _ => rfl
  | q :: qs, h => by
    obtain ⟨hq, hqs⟩ := List.forall_mem_cons.1 h
    have hlt := cellOf_lt m3_valid qs hqs
    have ih := zdigits3_cellOf qs hqs
    rw [List.length_cons, zdigits3, ← zdigits3_mod _ _ _ _ _ (Nat.le_refl _)]
    simp only [cellOf_cons, subcell, mul_add_div hlt.1, mul_add_div hlt.2.1, mul_add_div hlt.2.2,
      mul_add_mod hlt.1, mul_add_mod hlt.2.1, mul_add_mod hlt.2.2, ih, m3_b0, m3_b1, m3_b2,
      oct_of_bits q hq]

theorem zdigits3_succ : ∀ k x y z,
    zdigits3 (k + 1) x y z = zdigits3 k (x / 2) (y / 2) (z / 2) ++ [4 * (x % 2) + 2 * (y % 2) + z % 2]
  | 0, x, y, z => by simp [zdigits3]
  | k + 1, x, y, z => by
    rw [zdigits3, zdigits3_succ k x y z]
    simp only [zdigits3, List.cons_append, Nat.div_div_eq_div_mul, Nat.pow_succ, Nat.mul_comm]

end Coupe.Hilbert
