import CoupeModel.Model.Basic
import CoupeModel.Model.Metrics
import CoupeModel.Proofs.Basic
import Mathlib.Data.Finset.Card

/-!
# Lemmas about `Model/Metrics.lean`: edge cut, λ-1 cut, `sprs` views
-/

namespace Coupe.Metrics

theorem sumTo_congr {n : Nat} {f g : Nat → Int} (h : ∀ i, i < n → f i = g i) :
    sumTo n f = sumTo n g := by
  induction n with
  | zero => rfl
  | succ n ih =>
    simp only [sumTo]
    rw [ih (fun i hi => h i (by omega)), h n (by omega)]

theorem sumTo_add (n : Nat) (f g : Nat → Int) :
    sumTo n (fun i => f i + g i) = sumTo n f + sumTo n g := by
  induction n with
  | zero => rfl
  | succ n ih => simp only [sumTo, ih]; omega

theorem sumTo_zero (n : Nat) : sumTo n (fun _ => 0) = 0 := by
  induction n with
  | zero => rfl
  | succ n ih => simp only [sumTo, ih]; omega

theorem sumTo_single (n a : Nat) (c : Int) :
    sumTo n (fun j => if a = j then c else 0) = if a < n then c else 0 := by
  induction n with
  | zero => simp [sumTo]
  | succ n ih =>
    simp only [sumTo, ih]
    by_cases h1 : a < n
    · have : a ≠ n := by omega
      simp [h1, this, show a < n + 1 by omega]
    · by_cases h2 : a = n
      · subst h2; simp
      · simp [h1, h2, show ¬ a < n + 1 by omega]

theorem sumTo_square_eq_two_triangle (n : Nat) (g : Nat → Nat → Int)
    (hdiag : ∀ i, i < n → g i i = 0)
    (hsym : ∀ i j, i < n → j < n → g i j = g j i) :
    sumTo n (fun i => sumTo n (g i)) = 2 * sumTo n (fun i => sumTo i (g i)) := by
  induction n with
  | zero => rfl
  | succ n ih =>
    -- the new column equals the new row by symmetry, and the corner vanishes
    have hcol : sumTo n (fun i => g i n) = sumTo n (g n) :=
      sumTo_congr fun i hi => hsym i n (by omega) (by omega)
    simp only [sumTo, sumTo_add, hcol, hdiag n (by omega),
      ih (fun i hi => hdiag i (by omega)) fun i j hi hj => hsym i j (by omega) (by omega)]
    omega

theorem rowCutSprs_eq_generic (p : List Nat) (v : Nat) (row : Row)
    (hs : row.Pairwise (fun a b => a.1 ≤ b.1)) :
    rowCutSprs p v row = rowCutGeneric p v row := by
  unfold rowCutSprs rowCutGeneric
  rw [takeWhile_eq_filter_of_sorted v row hs, List.filter_filter]

theorem edgeCutSprsRows_eq_topo (t : Topo) (p : List Nat)
    (hs : ∀ v, v < t.len → (t.nbrs v).Pairwise (fun a b => a.1 ≤ b.1)) :
    edgeCutSprsRows t.len t.nbrs p = edgeCutTopo t p := by
  unfold edgeCutSprsRows edgeCutTopo
  exact sumTo_congr (fun v hv => rowCutSprs_eq_generic p v _ (hs v hv))

/-- Matrix entry `(row, j)`: total weight stored for neighbour `j` (a valid
sprs row stores it at most once). -/
def entry (row : Row) (j : Nat) : Int :=
  ((row.filter (fun e => e.1 == j)).map (·.2)).sum

theorem entry_cons (e : Nat × Int) (row : Row) (j : Nat) :
    entry (e :: row) j = (if e.1 = j then e.2 else 0) + entry row j := by
  unfold entry
  by_cases h : e.1 = j <;> simp [h]

theorem rowCutGeneric_eq_sum (p : List Nat) (v : Nat) (row : Row) :
    rowCutGeneric p v row =
      sumTo v (fun j => if part p v ≠ part p j then entry row j else 0) := by
  induction row with
  | nil => simp [rowCutGeneric, entry, sumTo_zero]
  | cons e rest ih =>
    have hsplit : (fun j => if part p v ≠ part p j then entry (e :: rest) j else 0) =
        (fun j => (if e.1 = j then (if part p v ≠ part p e.1 then e.2 else 0) else 0) +
          (if part p v ≠ part p j then entry rest j else 0)) := by
      funext j
      rw [entry_cons]
      by_cases h1 : e.1 = j
      · subst h1
        by_cases h2 : part p v ≠ part p e.1 <;> simp [h2]
      · simp [h1]
    rw [hsplit, sumTo_add, sumTo_single, ← ih]
    unfold rowCutGeneric
    by_cases h1 : e.1 < v <;> by_cases h2 : part p v = part p e.1 <;>
      simp [h1, h2]

theorem edgeCutTopo_eq_lower (t : Topo) (p : List Nat) :
    edgeCutTopo t p =
      sumTo t.len (fun i => sumTo i (fun j =>
        if part p i ≠ part p j then entry (t.nbrs i) j else 0)) := by
  unfold edgeCutTopo
  exact sumTo_congr (fun v _ => rowCutGeneric_eq_sum p v _)

def Symmetric (t : Topo) : Prop :=
  ∀ i j, i < t.len → j < t.len → entry (t.nbrs i) j = entry (t.nbrs j) i

theorem rowCutGeneric_perm (p : List Nat) (v : Nat) {r r' : Row} (h : r.Perm r') :
    rowCutGeneric p v r = rowCutGeneric p v r' := by
  unfold rowCutGeneric
  exact perm_sum ((h.filter _).map _)

theorem edgeCutTopo_perm {t t' : Topo} (p : List Nat) (hn : t.len = t'.len)
    (h : ∀ v, v < t.len → (t.nbrs v).Perm (t'.nbrs v)) :
    edgeCutTopo t p = edgeCutTopo t' p := by
  unfold edgeCutTopo
  rw [← hn]
  exact sumTo_congr (fun v hv => rowCutGeneric_perm p v (h v hv))

theorem insertPart_eq_insert (s : List Nat) (x : Nat) : insertPart s x = s.insert x := rfl

theorem foldl_insertPart (l s : List Nat) (hs : s.Nodup) :
    (l.foldl insertPart s).Nodup ∧ ∀ y, y ∈ l.foldl insertPart s ↔ y ∈ s ∨ y ∈ l := by
  induction l generalizing s with
  | nil => simp [hs]
  | cons x xs ih =>
    obtain ⟨h1, h2⟩ := ih (s.insert x) hs.insert
    refine ⟨h1, fun y => ?_⟩
    rw [List.foldl_cons, insertPart_eq_insert, h2, List.mem_insert_iff, List.mem_cons, or_assoc,
      or_left_comm]

theorem partsOf_spec (l : List Nat) : (partsOf l).Nodup ∧ ∀ y, y ∈ partsOf l ↔ y ∈ l := by
  have := foldl_insertPart l [] List.nodup_nil
  simpa [partsOf] using this

theorem partsOf_length (l : List Nat) : (partsOf l).length = l.toFinset.card := by
  obtain ⟨h1, h2⟩ := partsOf_spec l
  rw [← List.toFinset_card_of_nodup h1]
  congr 1
  ext y
  simp [h2]

theorem lambdaRow_eq_foreign (p : List Nat) (v : Nat) (nb : List Nat) :
    lambdaRow p v nb = ((nb.map (part p)).toFinset.erase (part p v)).card := by
  unfold lambdaRow
  rw [partsOf_length, List.toFinset_cons]
  by_cases h : part p v ∈ (nb.map (part p)).toFinset
  · rw [Finset.insert_eq_of_mem h, Finset.card_erase_of_mem h]
  · rw [Finset.card_insert_of_notMem h, Finset.erase_eq_of_notMem h]
    omega

theorem lambdaRow_eq_closed (p : List Nat) (v : Nat) (nb : List Nat) :
    lambdaRow p v nb = ((v :: nb).map (part p)).toFinset.card - 1 := by
  unfold lambdaRow
  rw [partsOf_length]
  rfl

theorem lambdaRow_perm (p : List Nat) (v : Nat) {nb nb' : List Nat} (h : nb.Perm nb') :
    lambdaRow p v nb = lambdaRow p v nb' := by
  rw [lambdaRow_eq_closed, lambdaRow_eq_closed, List.toFinset_eq_of_perm _ _ ((h.cons v).map _)]

theorem lambdaRows_congr (n : Nat) (f g : Nat → List Nat) (p : List Nat) (ws : List Int)
    (h : ∀ v, v < n → lambdaRow p v (f v) = lambdaRow p v (g v)) :
    lambdaRows n f p ws = lambdaRows n g p ws := by
  unfold lambdaRows
  apply sumTo_congr
  intro v hv
  rw [h v (by omega)]

theorem lambdaTopo_perm {t t' : Topo} (p : List Nat) (ws : List Int) (hn : t.len = t'.len)
    (h : ∀ v, v < t.len → (t.nbrs v).Perm (t'.nbrs v)) :
    lambdaTopo t p ws = lambdaTopo t' p ws := by
  unfold lambdaTopo
  rw [← hn]
  exact lambdaRows_congr _ _ _ p ws (fun v hv => lambdaRow_perm p v ((h v hv).map _))

/-- sprs' `check_compressed_structure` for a square matrix: `indptr` non-empty
and non-decreasing, `nnz = last - first = indices.len() = data.len()`, every row
strictly increasing and below `n`.  (The first `indptr` entry is free.) -/
def Csr.Valid (m : Csr) : Prop :=
  1 ≤ m.indptr.length ∧
  (∀ v, v < m.n → m.indptr.getD v 0 ≤ m.indptr.getD (v + 1) 0) ∧
  m.indptr.getD m.n 0 - m.offset = m.indices.length ∧
  m.indices.length = m.data.length ∧
  (∀ v, v < m.n → (m.row v).Pairwise (fun a b => a.1 < b.1)) ∧
  (∀ v, v < m.n → ∀ e ∈ m.row v, e.1 < m.n)

instance (m : Csr) : Decidable m.Valid := by unfold Csr.Valid; infer_instance

theorem Csr.offset_eq (m : Csr) : m.offset = m.indptr.getD 0 0 := by
  unfold Csr.offset
  cases m.indptr <;> simp

theorem Csr.indptr_mono {m : Csr} (h : m.Valid) (i j : Nat) (hij : i ≤ j) (hj : j ≤ m.n) :
    m.indptr.getD i 0 ≤ m.indptr.getD j 0 := by
  induction j, hij using Nat.le_induction with
  | base => exact Nat.le_refl _
  | succ j _ ih => exact (ih (by omega)).trans (h.2.1 j (by omega))

/-- `hoff`: the specialisation slices with `to_proper()`, or the raw `indptr` is
zero-based; either way it slices exactly the rows `outer_view` yields. -/
theorem Csr.specRow?_eq {m : Csr} (h : m.Valid) (cfg : Cfg)
    (hoff : cfg.proper = true ∨ m.offset = 0) (v : Nat) (hv : v < m.n) :
    m.specRow? cfg v = some (m.row v) := by
  have hoff' : (if cfg.proper then m.offset else 0) = m.offset := by
    rcases hoff with h1 | h1 <;> simp [h1]
  have h1 := h.2.1 v hv
  have h2 := Csr.indptr_mono h (v + 1) m.n (by omega) (Nat.le_refl _)
  have h3 := h.2.2.1
  have h4 := h.2.2.2.1
  unfold Csr.specRow? Csr.row
  simp only [hoff']
  exact if_pos ⟨by omega, by omega, by omega⟩

theorem Csr.specRow_eq {m : Csr} (h : m.Valid) (cfg : Cfg)
    (hoff : cfg.proper = true ∨ m.offset = 0) (v : Nat) (hv : v < m.n) :
    m.specRow cfg v = m.row v := by
  unfold Csr.specRow
  rw [Csr.specRow?_eq h cfg hoff v hv]
  rfl

theorem Csr.specRow?_isSome {m : Csr} (h : m.Valid) (cfg : Cfg)
    (hoff : cfg.proper = true ∨ m.offset = 0) (k : Nat) (hk : k ≤ m.n) :
    (List.range k).all (fun v => (m.specRow? cfg v).isSome) = true := by
  rw [List.all_eq_true]
  intro v hv
  rw [Csr.specRow?_eq h cfg hoff v (Nat.lt_of_lt_of_le (List.mem_range.mp hv) hk)]
  rfl

theorem Csr.row_sorted {m : Csr} (h : m.Valid) (v : Nat) (hv : v < m.n) :
    (m.row v).Pairwise (fun a b => a.1 ≤ b.1) :=
  (h.2.2.2.2.1 v hv).imp Nat.le_of_lt

theorem readsOk_of_inRange (t : Topo) (p : List Nat) (hp : t.len ≤ p.length)
    (h : ∀ v, v < t.len → ∀ e ∈ t.nbrs v, e.1 < t.len) : readsOk t p = true := by
  simp only [readsOk, List.all_eq_true, List.mem_range, Bool.and_eq_true, decide_eq_true_eq]
  exact fun v hv => ⟨by omega, fun e he => by have := h v hv e he; omega⟩

theorem lambdaReadsOk_of_inRange (n : Nat) (nbIds : Nat → List Nat) (p : List Nat) (ws : List Int)
    (hp : n ≤ p.length) (h : ∀ v, v < n → ∀ u ∈ nbIds v, u < n) :
    lambdaReadsOk n nbIds p ws = true := by
  simp only [lambdaReadsOk, List.all_eq_true, List.mem_range, Bool.and_eq_true, decide_eq_true_eq]
  exact fun v hv => ⟨by omega, fun u hu => by have := h v (by omega) u hu; omega⟩

theorem readsOk_of_valid {m : Csr} (h : m.Valid) (p : List Nat) (hp : m.n ≤ p.length) :
    readsOk m.topo p = true :=
  readsOk_of_inRange m.topo p hp h.2.2.2.2.2

theorem Csr.row_ids_lt {m : Csr} (h : m.Valid) (v : Nat) (hv : v < m.n) :
    ∀ u ∈ (m.row v).map (·.1), u < m.n := by
  intro u hu
  obtain ⟨e, he, rfl⟩ := List.mem_map.mp hu
  exact h.2.2.2.2.2 v hv e he

theorem lambdaReadsOk_of_valid {m : Csr} (h : m.Valid) (p : List Nat) (ws : List Int)
    (hp : m.n ≤ p.length) :
    lambdaReadsOk m.n (fun v => (m.row v).map (·.1)) p ws = true :=
  lambdaReadsOk_of_inRange m.n _ p ws hp (Csr.row_ids_lt h)

theorem edgeCutSprs?_of_valid {m : Csr} (h : m.Valid) (cfg : Cfg)
    (hoff : cfg.proper = true ∨ m.offset = 0) (p : List Nat) (hp : m.n ≤ p.length) :
    edgeCutSprs? cfg m p = .val (edgeCutTopo m.topo p) := by
  have hrows : edgeCutSprsRows m.n (m.specRow cfg) p = edgeCutSprsRows m.n m.row p :=
    sumTo_congr fun v hv => by rw [Csr.specRow_eq h cfg hoff v hv]
  rw [edgeCutSprs?, Csr.slicesOk, Csr.specRow?_isSome h cfg hoff m.n (Nat.le_refl _), Bool.not_true,
    if_neg Bool.false_ne_true, if_neg (by omega), hrows]
  exact congrArg Outcome.val (edgeCutSprsRows_eq_topo m.topo p (Csr.row_sorted h))

theorem lambdaSprs?_of_valid {m : Csr} (h : m.Valid) (cfg : Cfg)
    (hoff : cfg.proper = true ∨ m.offset = 0) (p : List Nat) (ws : List Int)
    (hp : m.n ≤ p.length) :
    lambdaSprs? cfg m p ws = .val (lambdaTopo m.topo p ws) := by
  have hrow : ∀ v, v < m.n → (m.specRow cfg v).map (·.1) = (m.row v).map (·.1) :=
    fun v hv => by rw [Csr.specRow_eq h cfg hoff v hv]
  have hs := Csr.specRow?_isSome h cfg hoff (min m.n ws.length) (Nat.min_le_left _ _)
  have hr := lambdaReadsOk_of_inRange m.n (fun v => (m.specRow cfg v).map (·.1)) p ws hp
    fun v hv => hrow v hv ▸ Csr.row_ids_lt h v hv
  simp only [lambdaSprs?, hs, hr, Bool.not_true, Bool.false_eq_true, if_false]
  exact congrArg Outcome.val (lambdaRows_congr _ _ _ p ws fun v hv => congrArg (lambdaRow p v) (hrow v hv))

end Coupe.Metrics
