import CoupeModel.Proofs.Basic

/-!
Common ground of the proofs about `greedy.rs`, `kk.rs` and `ckk.rs`: reading an id array after a
write, and the part loads of an enumerated weight list.
-/

namespace Coupe

def asg (q : List Nat) (i : Nat) : Nat := q[i]?.getD 0

theorem asg_set {q : List Nat} {i : Nat} (j v : Nat) (hi : i < q.length) :
    asg (q.set i v) j = if i = j then v else asg q j := by
  unfold asg
  rw [List.getElem?_set]
  split <;> rfl

theorem asg_of_lt {q : List Nat} {i : Nat} (hi : i < q.length) : asg q i = q[i] := by
  rw [asg, List.getElem?_eq_getElem hi]; rfl

def wsum (f : Nat → Nat) (j : Nat) (W : List (Int × Nat)) : Int :=
  (W.map fun x => if f x.2 = j then x.1 else 0).sum

theorem wsum_cons (f : Nat → Nat) (j : Nat) (x : Int × Nat) (W : List (Int × Nat)) :
    wsum f j (x :: W) = (if f x.2 = j then x.1 else 0) + wsum f j W := rfl

theorem wsum_append (f : Nat → Nat) (j : Nat) (W₁ W₂ : List (Int × Nat)) :
    wsum f j (W₁ ++ W₂) = wsum f j W₁ + wsum f j W₂ := by
  rw [wsum, List.map_append, List.sum_append]
  rfl

theorem wsum_perm (f : Nat → Nat) (j : Nat) {W₁ W₂ : List (Int × Nat)} (h : W₁.Perm W₂) :
    wsum f j W₁ = wsum f j W₂ :=
  perm_sum (h.map _)

theorem wsum_congr {f g : Nat → Nat} (j : Nat) {W : List (Int × Nat)}
    (h : ∀ x ∈ W, f x.2 = g x.2) : wsum f j W = wsum g j W :=
  congrArg List.sum (List.map_congr_left fun x hx => by rw [h x hx])

theorem wsum_eq_zero {f : Nat → Nat} {j : Nat} {W : List (Int × Nat)}
    (h : ∀ x ∈ W, f x.2 = j → x.1 = 0) : wsum f j W = 0 := by
  induction W with
  | nil => rfl
  | cons x W ih =>
    rw [wsum_cons, ih fun y hy => h y (List.mem_cons_of_mem _ hy), Int.add_zero]
    split
    · next hx => exact h x List.mem_cons_self hx
    · rfl

theorem wsum_zipIdx (f : Nat → Nat) (j : Nat) (ws : List Int) (ids : List Nat) (n : Nat)
    (hlen : ids.length = ws.length) (hf : ∀ i (h : i < ids.length), f (i + n) = ids[i]) :
    wsum f j (ws.zipIdx n) = load ws ids j := by
  induction ws generalizing ids n with
  | nil => rfl
  | cons w ws ih =>
    match ids, hlen with
    | i :: ids, hlen =>
      have h0 : f n = i := Nat.zero_add n ▸ hf 0 (Nat.zero_lt_succ _)
      rw [List.zipIdx_cons, wsum_cons, load_cons, h0, ih ids (n + 1) (Nat.succ.inj hlen)]
      intro m hm
      rw [← Nat.add_assoc, Nat.add_right_comm]
      exact hf (m + 1) (Nat.succ_lt_succ hm)

end Coupe
