import CoupeModel.Model.GridRcb
import CoupeModel.Proofs.GridRcb

/-!
# Lemmas on the split tree of `Grid::rcb` (`recurse`, `part_of`, `split_at`)

`Bisect D P n t sg c` is the formal reading of "the tree `t` is a recursive
bisection of the box `sg`, of depth at most `n`, along the axes `c, c+1, … (mod D)`,
every cut satisfying `P`".  `leafBox` is the box of the leaf a cell falls into.
-/

namespace Coupe.GridRcb

/-- The cell `pos` lies in the box `sg` (coordinates `< D`). -/
def InBox (D : Nat) (sg : SubGrid) (pos : Nat → Nat) : Prop :=
  ∀ c, c < D → sg.offset c ≤ pos c ∧ pos c < sg.offset c + sg.size c

/-- Low part of `split_at(c, k + offset[c])`. -/
def SubGrid.lo (sg : SubGrid) (c k : Nat) : SubGrid := { sg with size := upd sg.size c k }

/-- High part of `split_at(c, k + offset[c])`. -/
def SubGrid.hi (sg : SubGrid) (c k : Nat) : SubGrid :=
  { size := upd sg.size c (sg.size c - k), offset := upd sg.offset c (k + sg.offset c) }

theorem splitAt_eq (sg : SubGrid) (c k : Nat) (h : k ≤ sg.size c) :
    sg.splitAt c (k + sg.offset c) = some (sg.lo c k, sg.hi c k) := by
  simp only [SubGrid.splitAt, SubGrid.lo, SubGrid.hi]
  rw [if_neg (by omega), Nat.add_sub_cancel, if_neg (by omega)]

/-- Recursive bisection of `sg` of depth at most `n` starting along axis `c`;
`P sg c k` holds at every cut (`k` = number of slabs on the low side).  Leaves
above depth `n` exist only where the box is empty along the axis to cut. -/
inductive Bisect (D : Nat) (P : SubGrid → Nat → Nat → Prop) : Nat → Tree → SubGrid → Nat → Prop
  | iter0 (sg : SubGrid) (c : Nat) : Bisect D P 0 .whole sg c
  | empty (n : Nat) (sg : SubGrid) (c : Nat) : sg.size c = 0 → Bisect D P (n + 1) .whole sg c
  | split (n : Nat) (sg : SubGrid) (c k : Nat) (l r : Tree) :
      k < sg.size c → P sg c k →
      Bisect D P n l (sg.lo c k) ((c + 1) % D) → Bisect D P n r (sg.hi c k) ((c + 1) % D) →
      Bisect D P (n + 1) (.split (k + sg.offset c) l r) sg c

/-- The box of the leaf the cell `pos` falls into. -/
def leafBox (D : Nat) : Tree → SubGrid → Nat → (Nat → Nat) → SubGrid
  | .whole, sg, _, _ => sg
  | .split p l r, sg, c, pos =>
    if pos c < p then leafBox D l (sg.lo c (p - sg.offset c)) ((c + 1) % D) pos
    else leafBox D r (sg.hi c (p - sg.offset c)) ((c + 1) % D) pos

theorem upd_same (f : Nat → Nat) (c v : Nat) : upd f c v c = v := by simp [upd]
theorem upd_other (f : Nat → Nat) (c v i : Nat) (h : i ≠ c) : upd f c v i = f i := by simp [upd, h]

theorem lo_agree (sg : SubGrid) (c k i : Nat) (h : i ≠ c) :
    (sg.lo c k).offset i = sg.offset i ∧ (sg.lo c k).size i = sg.size i :=
  ⟨rfl, upd_other _ _ _ _ h⟩

theorem hi_agree (sg : SubGrid) (c k i : Nat) (h : i ≠ c) :
    (sg.hi c k).offset i = sg.offset i ∧ (sg.hi c k).size i = sg.size i :=
  ⟨upd_other _ _ _ _ h, upd_other _ _ _ _ h⟩

theorem inBox_iff_of_agree {D : Nat} {sg sg' : SubGrid} {c : Nat} {pos : Nat → Nat} {R : Prop}
    (hoff : ∀ i, i ≠ c → sg'.offset i = sg.offset i ∧ sg'.size i = sg.size i)
    (hc : (sg'.offset c ≤ pos c ∧ pos c < sg'.offset c + sg'.size c) ↔
      (sg.offset c ≤ pos c ∧ pos c < sg.offset c + sg.size c) ∧ R) :
    InBox D sg' pos ↔ InBox D sg pos ∧ (c < D → R) := by
  constructor
  · intro h
    refine ⟨fun i hi => ?_, fun hc' => (hc.1 (h c hc')).2⟩
    by_cases hic : i = c
    · subst hic; exact (hc.1 (h i hi)).1
    · have := h i hi
      rwa [(hoff i hic).1, (hoff i hic).2] at this
  · intro ⟨h, h2⟩ i hi
    by_cases hic : i = c
    · subst hic; exact hc.2 ⟨h i hi, h2 hi⟩
    · rw [(hoff i hic).1, (hoff i hic).2]; exact h i hi

theorem inBox_lo {D : Nat} {sg : SubGrid} {c k : Nat} {pos : Nat → Nat} (hk : k ≤ sg.size c) :
    InBox D (sg.lo c k) pos ↔ InBox D sg pos ∧ (c < D → pos c < k + sg.offset c) :=
  inBox_iff_of_agree (lo_agree sg c k) (by simp only [SubGrid.lo, upd_same]; omega)

theorem inBox_hi {D : Nat} {sg : SubGrid} {c k : Nat} {pos : Nat → Nat} (hk : k ≤ sg.size c) :
    InBox D (sg.hi c k) pos ↔ InBox D sg pos ∧ (c < D → ¬ pos c < k + sg.offset c) :=
  inBox_iff_of_agree (hi_agree sg c k) (by simp only [SubGrid.hi, upd_same]; omega)

theorem inBox_lo_of_lt {D : Nat} {sg : SubGrid} {c k : Nat} {pos : Nat → Nat} (hk : k ≤ sg.size c)
    (hin : InBox D sg pos) (h : pos c < k + sg.offset c) : InBox D (sg.lo c k) pos :=
  (inBox_lo hk).2 ⟨hin, fun _ => h⟩

theorem inBox_hi_of_not_lt {D : Nat} {sg : SubGrid} {c k : Nat} {pos : Nat → Nat} (hk : k ≤ sg.size c)
    (hin : InBox D sg pos) (h : ¬ pos c < k + sg.offset c) : InBox D (sg.hi c k) pos :=
  (inBox_hi hk).2 ⟨hin, fun _ => h⟩

section
variable {D : Nat} {P : SubGrid → Nat → Nat → Prop} {n : Nat} {t : Tree} {sg : SubGrid} {c : Nat}

theorem Bisect.depth_le (h : Bisect D P n t sg c) :
    t.depth ≤ n := by
  induction h with
  | iter0 => exact Nat.le_refl 0
  | empty => exact Nat.zero_le _
  | split n sg c k l r _ _ _ _ ih1 ih2 => exact Nat.succ_le_succ (Nat.max_le.2 ⟨ih1, ih2⟩)

theorem two_pow_step (id n : Nat) : (id + 1) * 2 ^ (n + 1) = (2 * id + 1 + 1) * 2 ^ n := by
  rw [Nat.pow_succ, Nat.mul_comm (2 ^ n), ← Nat.mul_assoc, Nat.add_mul, Nat.mul_comm id]

theorem partOfAux_lt (h : Bisect D P n t sg c)
    (pos : Nat → Nat) (id : Nat) : partOfAux D t pos c id < (id + 1) * 2 ^ n := by
  induction h generalizing id with
  | iter0 => rw [partOfAux, Nat.pow_zero, Nat.mul_one]; exact Nat.lt_succ_self id
  | empty n sg c _ =>
    exact Nat.lt_of_lt_of_le (Nat.lt_succ_self id) (Nat.le_mul_of_pos_right _ (Nat.pow_pos Nat.zero_lt_two))
  | split n sg c k l r _ _ _ _ ih1 ih2 =>
    rw [partOfAux, two_pow_step]
    split
    · exact Nat.lt_of_lt_of_le (ih1 (id * 2)) (Nat.mul_le_mul_right _ (by omega))
    · exact ih2 (2 * id + 1)

theorem partOf_lt (h : Bisect D P n t sg c)
    (pos : Nat → Nat) : partOf D t pos c < 2 ^ n := by
  have := partOfAux_lt h pos 0
  rwa [Nat.zero_add, Nat.one_mul] at this

theorem partOf_map_lt {α : Type} (h : Bisect D P n t sg c) (l : List α) (f : α → Nat → Nat) :
    ∀ id ∈ l.map (fun i => partOf D t (f i) c), id < 2 ^ n := by
  intro id hid
  obtain ⟨i, _, rfl⟩ := List.mem_map.1 hid
  exact partOf_lt h _

/-- With `partOfAux_lt`: the ids under a node with running id `id` form the block
`[id·2^n, (id + 1)·2^n)`.  The lower bound needs the cell in the box: only then is its leaf at
depth exactly `n`. -/
theorem partOfAux_ge (h : Bisect D P n t sg c)
    (hc : c < D) (pos : Nat → Nat) (hin : InBox D sg pos) (id : Nat) :
    id * 2 ^ n ≤ partOfAux D t pos c id := by
  induction h generalizing id with
  | iter0 => rw [partOfAux, Nat.pow_zero, Nat.mul_one]; exact Nat.le_refl id
  | empty n sg c h0 => have := hin c hc; omega
  | split n sg c k l r hk _ _ _ ih1 ih2 =>
    have hD : (c + 1) % D < D := Nat.mod_lt _ (Nat.zero_lt_of_lt hc)
    rw [partOfAux, Nat.pow_succ', ← Nat.mul_assoc]
    split
    · next hlt => exact ih1 hD (inBox_lo_of_lt (Nat.le_of_lt hk) hin hlt) (id * 2)
    · next hlt =>
      refine Nat.le_trans (Nat.mul_le_mul_right _ ?_)
        (ih2 hD (inBox_hi_of_not_lt (Nat.le_of_lt hk) hin hlt) (2 * id + 1))
      omega

theorem leafBox_inBox (h : Bisect D P n t sg c)
    (pos : Nat → Nat) (hin : InBox D sg pos) : InBox D (leafBox D t sg c pos) pos := by
  induction h with
  | iter0 => exact hin
  | empty => exact hin
  | split n sg c k l r hk _ _ _ ih1 ih2 =>
    rw [leafBox, Nat.add_sub_cancel]
    split
    · next hlt => exact ih1 (inBox_lo_of_lt (Nat.le_of_lt hk) hin hlt)
    · next hlt => exact ih2 (inBox_hi_of_not_lt (Nat.le_of_lt hk) hin hlt)

theorem leafBox_sub (h : Bisect D P n t sg c)
    (pos q : Nat → Nat) (hq : InBox D (leafBox D t sg c pos) q) : InBox D sg q := by
  induction h with
  | iter0 => exact hq
  | empty => exact hq
  | split n sg c k l r hk _ _ _ ih1 ih2 =>
    rw [leafBox, Nat.add_sub_cancel] at hq
    split at hq
    · exact ((inBox_lo (Nat.le_of_lt hk)).1 (ih1 hq)).1
    · exact ((inBox_hi (Nat.le_of_lt hk)).1 (ih2 hq)).1

theorem partOfAux_eq_iff (h : Bisect D P n t sg c)
    (hc : c < D) (pos pos' : Nat → Nat) (hin : InBox D sg pos) (hin' : InBox D sg pos') (id : Nat) :
    partOfAux D t pos c id = partOfAux D t pos' c id ↔ InBox D (leafBox D t sg c pos) pos' := by
  induction h generalizing id with
  | iter0 => exact iff_of_true rfl hin'
  | empty n sg c h0 => have := hin c hc; omega
  | split n sg c k l r hk _ hl hr ih1 ih2 =>
    have hD : (c + 1) % D < D := Nat.mod_lt _ (Nat.zero_lt_of_lt hc)
    have hk' := Nat.le_of_lt hk
    -- cells on different sides of the cut: the ids of the low side lie below those of the
    -- high side, and neither cell is in the leaf box of the other
    have mixed : ∀ x y, InBox D (sg.lo c k) x → InBox D (sg.hi c k) y →
        partOfAux D l x ((c + 1) % D) (id * 2) ≠ partOfAux D r y ((c + 1) % D) (2 * id + 1) ∧
        ¬ InBox D (leafBox D l (sg.lo c k) ((c + 1) % D) x) y ∧
        ¬ InBox D (leafBox D r (sg.hi c k) ((c + 1) % D) y) x := by
      intro x y hx hy
      refine ⟨Nat.ne_of_lt (Nat.lt_of_lt_of_le (partOfAux_lt hl x (id * 2)) ?_), fun hq => ?_, fun hq => ?_⟩
      · rw [Nat.mul_comm id 2]; exact partOfAux_ge hr hD y hy (2 * id + 1)
      · exact ((inBox_hi hk').1 hy).2 hc (((inBox_lo hk').1 (leafBox_sub hl x y hq)).2 hc)
      · exact ((inBox_hi hk').1 (leafBox_sub hr y x hq)).2 hc (((inBox_lo hk').1 hx).2 hc)
    rw [partOfAux, partOfAux, leafBox, Nat.add_sub_cancel]
    by_cases h1 : pos c < k + sg.offset c <;> by_cases h2 : pos' c < k + sg.offset c
    · rw [if_pos h1, if_pos h2, if_pos h1]
      exact ih1 hD (inBox_lo_of_lt hk' hin h1) (inBox_lo_of_lt hk' hin' h2) _
    · rw [if_pos h1, if_neg h2, if_pos h1]
      have m := mixed pos pos' (inBox_lo_of_lt hk' hin h1) (inBox_hi_of_not_lt hk' hin' h2)
      exact iff_of_false m.1 m.2.1
    · rw [if_neg h1, if_pos h2, if_neg h1]
      have m := mixed pos' pos (inBox_lo_of_lt hk' hin' h2) (inBox_hi_of_not_lt hk' hin h1)
      exact iff_of_false m.1.symm m.2.2
    · rw [if_neg h1, if_neg h2, if_neg h1]
      exact ih2 hD (inBox_hi_of_not_lt hk' hin h1) (inBox_hi_of_not_lt hk' hin' h2) _

end

/-- Rule for invariants of `recurse`: `Q` relates a sub-grid and the total handed down with
it; `step` asks that every cut preserve it and yield `P`. -/
theorem recurse_bisect (env : Env) (P : SubGrid → Nat → Nat → Prop) (Q : SubGrid → Int → Prop)
    (hD : 0 < env.D)
    (step : ∀ sg total c axisW minPw maxPw k l, Q sg total → c < env.D → sg.size c ≠ 0 →
      env.aw sg c = some axisW → env.bracket total = some (minPw, maxPw) →
      weightedMedian env.cfg env.T axisW minPw maxPw = .ok (k, l) →
      k < sg.size c ∧ P sg c k ∧ Q (sg.lo c k) l ∧ Q (sg.hi c k) (total - l)) :
    ∀ (iter : Nat) (sg : SubGrid) (total : Int) (c : Nat) (t : Tree), c < env.D → Q sg total →
      recurse env iter sg total c = .ok t → Bisect env.D P iter t sg c := by
  intro iter
  induction iter with
  | zero =>
    intro sg total c t _ _ h
    cases h
    exact .iter0 sg c
  | succ iter ih =>
    intro sg total c t hc hQ h
    rw [recurse] at h
    split at h
    · next h0 =>
      cases h
      exact .empty iter sg c h0
    · next h0 =>
      split at h
      · cases h
      · next axisW haw =>
        split at h
        · cases h
        · next minPw maxPw hbr =>
          split at h
          · cases h
          · next k l hmed =>
            obtain ⟨hk, hP, hQl, hQr⟩ := step sg total c axisW minPw maxPw k l hQ hc h0 haw hbr hmed
            simp only [splitAt_eq sg c k (Nat.le_of_lt hk)] at h
            have hc' : (c + 1) % env.D < env.D := Nat.mod_lt _ hD
            split at h
            · cases h
            · next lt hl =>
              split at h
              · cases h
              · next rt hr =>
                cases h
                exact .split iter sg c k lt rt hk hP (ih _ _ _ _ hc' hQl hl) (ih _ _ _ _ hc' hQr hr)

theorem positionOf2_lt (w h i : Nat) (hw : 0 < w) (hi : i < w * h) :
    (positionOf2 w i).1 < w ∧ (positionOf2 w i).2 < h := by
  simp only [positionOf2]
  exact ⟨Nat.mod_lt _ hw, Nat.div_lt_of_lt_mul hi⟩

theorem indexOf2_lt (w h x y : Nat) (hx : x < w) (hy : y < h) : indexOf2 w (x, y) < w * h := by
  simp only [indexOf2]
  have : w * (y + 1) ≤ w * h := Nat.mul_le_mul_left w hy
  rw [Nat.mul_succ] at this
  omega

/-! A 3-D grid of width `w` is the 2-D grid of width `w` whose rows are the cells `(y, z)` of a
2-D grid of width `h`: `indexOf3 w h (x, y, z) = indexOf2 w (x, indexOf2 h (y, z))`. -/

theorem positionOf3_lt (w h d i : Nat) (hw : 0 < w) (hh : 0 < h) (hi : i < w * h * d) :
    (positionOf3 w h i).1 < w ∧ (positionOf3 w h i).2.1 < h ∧ (positionOf3 w h i).2.2 < d := by
  obtain ⟨a, b⟩ := positionOf2_lt w (h * d) i hw (Nat.mul_assoc w h d ▸ hi)
  exact ⟨a, positionOf2_lt h d (i / w) hh b⟩

theorem indexOf3_lt (w h d x y z : Nat) (hx : x < w) (hy : y < h) (hz : z < d) :
    indexOf3 w h (x, y, z) < w * h * d :=
  Nat.mul_assoc w h d ▸ indexOf2_lt w (h * d) x _ hx (indexOf2_lt h d y z hy hz)

def InGrid (D : Nat) (dims : Nat → Nat) (sg : SubGrid) : Prop :=
  ∀ c, c < D → sg.offset c + sg.size c ≤ dims c

/-- Specification of an `axis_weights` block `aw` against a box-weight function
`bw` (the weight of all cells of a sub-grid): inside the grid no index is out of
bounds, there is one entry per slab, the entries add up to the weight of the box,
and the first `k` of them to the weight of the low part of `split_at`. -/
def AwSpec (D : Nat) (dims : Nat → Nat) (aw : SubGrid → Nat → Option (List Int))
    (bw : SubGrid → Int) : Prop :=
  ∀ sg c, c < D → InGrid D dims sg →
    ∃ axisW, aw sg c = some axisW ∧ axisW.length = sg.size c ∧ axisW.sum = bw sg ∧
      ∀ k, k ≤ sg.size c →
        bw (sg.lo c k) = pre axisW k ∧ bw (sg.hi c k) = axisW.sum - pre axisW k

/-- Weight of the cells of a 2-D sub-grid (`w` = grid width; cells outside the
array count 0, which does not happen inside the grid). -/
def boxWeight2 (w : Nat) (ws : Array Int) (sg : SubGrid) : Int :=
  ((sg.axis 1).map fun y => ((sg.axis 0).map fun x => ws.getD (indexOf2 w (x, y)) 0).sum).sum

/-- Weight of the cells of a 3-D sub-grid. -/
def boxWeight3 (w h : Nat) (ws : Array Int) (sg : SubGrid) : Int :=
  ((sg.axis 2).map fun z => ((sg.axis 1).map fun y =>
    ((sg.axis 0).map fun x => ws.getD (indexOf3 w h (x, y, z)) 0).sum).sum).sum

end Coupe.GridRcb
