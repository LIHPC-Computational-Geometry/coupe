import CoupeModel.Proofs.ParAlgos

/-!
# Rcb under every schedule without exact coordinate arithmetic

`Proofs/ParAlgos.lean` works over `Coord Int` and states where exactness of the distance
`point - split_target` is used (`DistExact`).  Since /repo f4e2819 the reduce closure of
`par_rcb_split` keeps the LEFT operand on a tie, like the fold keeps the first item of a leaf; the
4-tuple – pivot index included – is then the sequential fold's along every split tree, and no
property of `-`, `+`, `/ 2.0` is needed: they may round.

The fold/reduce is modelled over an arbitrary coordinate type `α` with `Coord α` (`AccG`, `stepG`,
`mergeG`, `scanG`) and plugged into copies of `Rcb.split`/`recurse`/`runBB`; the reduce closure is
a parameter so that the closure the code had before f4e2819, `mergeGOld`, can be run too.  Needed
of `α`: `<` is a strict weak order compatible with `< INFINITY` (`DistLaws`).  Weights stay exact
integers: their sums need associativity (`parSum_schedule_free`).
-/

namespace Coupe.ParAlgos

open Coupe.Rcb Coupe.Par

variable {α : Type} [Coord α]

/-- `(count_left, weight_left, nearest_idx, nearest_distance)` over `α`; `dist = none` is
`f32::INFINITY` (the initial value; a stored distance passed `distance < nearest_distance`). -/
structure AccG (α : Type) where
  count : Nat
  weight : Int
  idx : Option Nat
  dist : Option α
deriving DecidableEq, Repr

/-- `|| (0, W::default(), None, f32::INFINITY)`. -/
def initG : AccG α := ⟨0, 0, none, none⟩

/-- `a < b` on distances where `none` is `INFINITY`: `x < INFINITY` is `Coord.ltInf x`,
`INFINITY < _` is false. -/
def ltD : Option α → Option α → Bool
  | some a, some b => Coord.lt a b
  | some a, none => Coord.ltInf a
  | none, _ => false

/-- The fold closure of `par_rcb_split` (`Rcb.scanStep` on the 4-tuple). -/
def stepG (coord : Nat) (t : α) (a : AccG α) (x : Rcb.Item α × Nat) : AccG α :=
  let d := Coord.sub (x.1.key coord) t
  if Coord.lt d Coord.zero then ⟨a.count + 1, a.weight + x.1.w, a.idx, a.dist⟩
  else if ltD (some d) a.dist then ⟨a.count, a.weight, some x.2, some d⟩
  else a

/-- The reduce closure since /repo f4e2819: the right operand wins only if strictly nearer. -/
def mergeG (a b : AccG α) : AccG α :=
  if ltD b.dist a.dist then ⟨a.count + b.count, a.weight + b.weight, b.idx, b.dist⟩
  else ⟨a.count + b.count, a.weight + b.weight, a.idx, a.dist⟩

/-- The reduce closure before /repo f4e2819 (defect N11): the left operand won only if
strictly nearer. -/
def mergeGOld (a b : AccG α) : AccG α :=
  if ltD a.dist b.dist then ⟨a.count + b.count, a.weight + b.weight, a.idx, a.dist⟩
  else ⟨a.count + b.count, a.weight + b.weight, b.idx, b.dist⟩

/-- The model's `Scan` from the tuple. -/
def toScanG (a : AccG α) : Scan α :=
  ⟨a.count, a.weight,
    match a.idx, a.dist with
    | some i, some d => some (i, d)
    | _, _ => none⟩

/-- `par_rcb_split`'s `fold(..).reduce(..)` along the split tree `tr`, reduce closure `mg`. -/
def scanG (mg : AccG α → AccG α → AccG α) (tr : SplitTree) (items : List (Rcb.Item α))
    (coord : Nat) (t : α) : Scan α :=
  toScanG (parFoldR (stepG coord t) initG mg initG tr items.zipIdx)

/-- `Rcb.split` with `scanG` in place of `scan` (iteration `it` uses the tree `trees it`). -/
def splitG (mg : AccG α → AccG α → AccG α) (trees : Nat → SplitTree)
    (withinTol : Int → Int → Bool) (coord : Nat) (sum : Int) (items : List (Rcb.Item α)) :
    Nat → Nat → α → α → Option Nat → Bool → Res (SplitOut α)
  | 0, _, _, _, _, _ => .fuel
  | fuel + 1, it, min, max, prev, moved =>
    let t := Coord.mid min max
    let s := scanG mg (trees it) items coord t
    match s.nearest with
    | none =>
      if prev = some s.count then
        .ok ⟨items, [], sum, max, .allLeft, min, max, moved, it + 1⟩
      else splitG mg trees withinTol coord sum items fuel (it + 1) min t (some s.count) true
    | some (idx, nd) =>
      let exit? : Option Exit :=
        if prev = some s.count then some .plateau
        else if Coord.le max (Coord.add t nd) then some .noPointToMax
        else if withinTol s.wl sum then some .tolerance
        else none
      match exit? with
      | some e =>
        match reorderSplit items idx coord with
        | .oob => .oob
        | .fuel => .fuel
        | .ok (l, r) => .ok ⟨l, r, s.wl, t, e, min, max, moved, it + 1⟩
      | none =>
        if s.wl < sum - s.wl then
          splitG mg trees withinTol coord sum items fuel (it + 1) t max (some s.count) moved
        else splitG mg trees withinTol coord sum items fuel (it + 1) min t (some s.count) true

/-- `Rcb.recurse` with `splitG` in place of `split`. -/
def recurseG (mg : AccG α → AccG α → AccG α) (withinTol : Int → Int → Bool) (cfg : Cfg)
    (trees : Nat → Nat → SplitTree) :
    Nat → List (Rcb.Item α) → Nat → Nat → Int → List α → List α → Res (Tree (NodeInfo α))
  | _, [], _, _, _, _, _ => .ok .empty
  | 0, items, iterId, _, _, _, _ => .ok (.leaf iterId (items.map (·.id)))
  | k + 1, items, iterId, coord, sum, lo, hi =>
    let min := lo.getD coord Coord.zero
    let max := hi.getD coord Coord.zero
    match splitG mg (trees iterId) withinTol coord sum items cfg.fuel 0 min max none false with
    | .oob => .oob
    | .fuel => .fuel
    | .ok r =>
      match recurseG mg withinTol cfg trees k r.left (2 * iterId + 1) ((coord + 1) % cfg.dim)
              r.weightLeft lo (hi.set coord r.splitPos) with
      | .oob => .oob
      | .fuel => .fuel
      | .ok tl =>
        match recurseG mg withinTol cfg trees k r.right (2 * iterId + 2) ((coord + 1) % cfg.dim)
                (sum - r.weightLeft) (lo.set coord r.splitPos) hi with
        | .oob => .oob
        | .fuel => .fuel
        | .ok tr => .ok (.node ⟨coord, sum, min, max, r.weightLeft, r.splitPos, r.exit, r.iters⟩ tl tr)

/-- `Rcb.runBB` under the schedule `s`, over `α`, reduce closure `mg`. -/
def runBBG (mg : AccG α → AccG α → AccG α) (s : RcbSched) (withinTol : Int → Int → Bool)
    (cfg : Cfg) (iter : Nat) (pts : List (List α)) (ws : List Int) (plen : Nat) (lo hi : List α) :
    Outcome :=
  if ws.length ≠ plen then .lenMismatch
  else if pts.length ≠ plen then .lenMismatch
  else if pts.isEmpty then .ok []
  else
    match recurseG mg withinTol cfg s.split iter (mkItems pts ws) 0 0 (parSum s.sumTree ws) lo hi with
    | .oob => .oob
    | .fuel => .fuel
    | .ok t => .ok (idsOfTreeS s.stores plen t)

/-- What the comparisons of `α` must satisfy – nothing is asked of `sub`, `add`, `half`, `mid`.
`<` is transitive and negatively transitive (a strict weak order: no NaN), and agrees with
`< INFINITY`.  (`f32` restricted to non-NaN values, `Int`, `roundingCoord`.) -/
structure DistLaws (α : Type) [Coord α] : Prop where
  trans : ∀ a b c : α, Coord.lt a b = true → Coord.lt b c = true → Coord.lt a c = true
  neg_trans : ∀ a b c : α, Coord.lt a b = true → Coord.lt c b = false → Coord.lt a c = true
  lt_ltInf : ∀ a b : α, Coord.lt a b = true → Coord.ltInf a = true
  ltInf_lt : ∀ a b : α, Coord.ltInf a = true → Coord.ltInf b = false → Coord.lt a b = true

theorem ltD_trans (laws : DistLaws α) : ∀ {a b c : Option α},
    ltD a b = true → ltD b c = true → ltD a c = true
  | some x, some y, some z, h1, h2 => laws.trans x y z h1 h2
  | some x, some y, none, h1, _ => laws.lt_ltInf x y h1
  | _, none, _, _, h2 => by simp [ltD] at h2
  | none, _, _, h1, _ => by simp [ltD] at h1

theorem ltD_neg_trans (laws : DistLaws α) : ∀ {a b c : Option α},
    ltD a b = true → ltD c b = false → ltD a c = true
  | some x, some y, some z, h1, h2 => laws.neg_trans x y z h1 h2
  | some x, some y, none, h1, _ => laws.lt_ltInf x y h1
  | some x, none, some z, h1, h2 => laws.ltInf_lt x z h1 h2
  | some _, none, none, h1, _ => h1
  | none, _, _, h1, _ => by simp [ltD] at h1

theorem mergeG_stepG (laws : DistLaws α) (coord : Nat) (t : α) (a b : AccG α)
    (x : Rcb.Item α × Nat) :
    mergeG a (stepG coord t b x) = stepG coord t (mergeG a b) x := by
  obtain ⟨c1, w1, i1, d1⟩ := a
  obtain ⟨c2, w2, i2, d2⟩ := b
  simp only [stepG, mergeG]
  generalize Coord.sub (x.1.key coord) t = e
  cases hneg : Coord.lt e Coord.zero
  · simp only [Bool.false_eq_true, ↓reduceIte]
    -- the new candidate `e` beats the merged pair iff it beats the one the merge keeps
    cases h2 : ltD (some e) d2 <;> cases h21 : ltD d2 d1
    · cases h1 : ltD (some e) d1
      · simp [h21, h1]
      · rw [ltD_neg_trans laws h1 h21] at h2; cases h2
    · simp [h2, h21]
    · simp
    · simp [h2, ltD_trans laws h2 h21]
  · simp only [↓reduceIte]
    split <;> simp only [Nat.add_assoc, Int.add_assoc]

theorem mergeG_init_right (a : AccG α) : mergeG a initG = a := by
  obtain ⟨c, w, i, d⟩ := a
  simp [mergeG, initG, ltD]

/-- Tuples the fold produces: an index iff a distance. -/
def AccGWF (a : AccG α) : Prop := a.idx = none ↔ a.dist = none

theorem accGWF_step (coord : Nat) (t : α) (a : AccG α) (x : Rcb.Item α × Nat) (h : AccGWF a) :
    AccGWF (stepG coord t a x) := by
  unfold stepG
  simp only
  split
  · exact h
  · split
    · simp [AccGWF]
    · exact h

theorem toScanG_step (coord : Nat) (t : α) (a : AccG α) (x : Rcb.Item α × Nat) (h : AccGWF a) :
    toScanG (stepG coord t a x) = scanStep coord t (toScanG a) x := by
  obtain ⟨c, w, i, d⟩ := a
  simp only [AccGWF] at h
  unfold stepG scanStep
  simp only
  cases hneg : Coord.lt (Coord.sub (x.1.key coord) t) Coord.zero with
  | true => simp [toScanG]
  | false =>
    simp only [Bool.false_eq_true, ↓reduceIte]
    cases i with
    | none =>
      obtain rfl := h.1 rfl
      cases hl : Coord.ltInf (Coord.sub (x.1.key coord) t) <;> simp [toScanG, ltD, hl]
    | some j =>
      cases d with
      | none => cases h.2 rfl
      | some e =>
        cases hl : Coord.lt (Coord.sub (x.1.key coord) t) e <;> simp [toScanG, ltD, hl]

end Coupe.ParAlgos
