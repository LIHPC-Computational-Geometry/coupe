import CoupeModel.Model.Rcb
import CoupeModel.Proofs.Rcb
import CoupeModel.Proofs.RcbBalance

/-!
# C04 along the recursion tree of `rcb_recurse`

`Proofs/RcbBalance.lean` is about ONE cut search; here its results are threaded through the
recursion.  `recurseT` is `recurse` with three more ghost fields per node (the last search interval
and whether `max` moved: the inputs of the premise `Resolved`).  Forgetting them gives exactly the
tree of `recurse`, with the same outcome on every input (`recurseT_erase`), so theorems about
`recurseT` are theorems about the recursion the driver runs.  What holds at every node of a run is
`NodeFacts`, proved by one induction (`recurseT_facts`).
-/

namespace Coupe.Rcb

variable {α : Type} [Coord α]

/-- A bisection node's record plus the ghost outputs of its cut search. -/
structure NodeTrace (α : Type) where
  info : NodeInfo α
  /-- the interval when the search returned -/
  lastMin : α
  lastMax : α
  /-- whether `max` was ever assigned -/
  maxMoved : Bool
deriving Repr

/-- Relabel the bisection nodes of a tree. -/
def Tree.map {ι κ : Type} (f : ι → κ) : Tree ι → Tree κ
  | .empty => .empty
  | .leaf p ids => .leaf p ids
  | .node i lo hi => .node (f i) (lo.map f) (hi.map f)

/-- A property of every bisection node (record, low subtree, high subtree). -/
def Tree.AllNodes {ι : Type} (P : ι → Tree ι → Tree ι → Prop) : Tree ι → Prop
  | .empty => True
  | .leaf _ _ => True
  | .node i lo hi => P i lo hi ∧ lo.AllNodes P ∧ hi.AllNodes P

def Res.map {β γ : Type} (f : β → γ) : Res β → Res γ
  | .ok v => .ok (f v)
  | .oob => .oob
  | .fuel => .fuel

/-- `recurse`, recording also the last interval of every search (ghost data). -/
def recurseT (withinTol : Int → Int → Bool) (cfg : Cfg) :
    Nat → List (Item α) → Nat → Nat → Int → List α → List α → Res (Tree (NodeTrace α))
  | _, [], _, _, _, _, _ => .ok .empty
  | 0, items, iterId, _, _, _, _ => .ok (.leaf iterId (items.map (·.id)))
  | k + 1, items, iterId, coord, sum, lo, hi =>
    let min := lo.getD coord Coord.zero
    let max := hi.getD coord Coord.zero
    match split withinTol coord sum items cfg.fuel 0 min max none false with
    | .oob => .oob
    | .fuel => .fuel
    | .ok r =>
      match recurseT withinTol cfg k r.left (2 * iterId + 1) ((coord + 1) % cfg.dim) r.weightLeft
              lo (hi.set coord r.splitPos) with
      | .oob => .oob
      | .fuel => .fuel
      | .ok tl =>
        match recurseT withinTol cfg k r.right (2 * iterId + 2) ((coord + 1) % cfg.dim)
                (sum - r.weightLeft) (lo.set coord r.splitPos) hi with
        | .oob => .oob
        | .fuel => .fuel
        | .ok tr =>
          .ok (.node ⟨⟨coord, sum, min, max, r.weightLeft, r.splitPos, r.exit, r.iters⟩,
            r.lastMin, r.lastMax, r.maxMoved⟩ tl tr)

/-- `runTree` with the instrumented recursion. -/
def runTreeT (withinTol : Int → Int → Bool) (cfg : Cfg) (iter : Nat) (pts : List (List α))
    (ws : List Int) (lo hi : List α) : Res (Tree (NodeTrace α)) :=
  recurseT withinTol cfg iter (mkItems pts ws) 0 0 ws.sum lo hi

/-- Forgetting the ghost fields gives the recursion the driver executes. -/
theorem recurseT_erase (wt : Int → Int → Bool) (cfg : Cfg) :
    ∀ (k : Nat) (items : List (Item α)) (iterId coord : Nat) (sum : Int) (lo hi : List α),
      Res.map (Tree.map NodeTrace.info) (recurseT wt cfg k items iterId coord sum lo hi) =
        recurse wt cfg k items iterId coord sum lo hi := by
  intro k
  induction k with
  | zero =>
    intro items iterId coord sum lo hi
    cases items <;> rfl
  | succ k ih =>
    intro items iterId coord sum lo hi
    cases items with
    | nil => rfl
    | cons x xs =>
      simp only [recurseT, recurse]
      cases hs : split wt coord sum (x :: xs) cfg.fuel 0 (lo.getD coord Coord.zero)
          (hi.getD coord Coord.zero) none false with
      | oob => rfl
      | fuel => rfl
      | ok r =>
        dsimp only
        rw [← ih r.left, ← ih r.right]
        cases recurseT wt cfg k r.left (2 * iterId + 1) ((coord + 1) % cfg.dim) r.weightLeft lo
            (hi.set coord r.splitPos) with
        | oob => rfl
        | fuel => rfl
        | ok tl =>
          cases recurseT wt cfg k r.right (2 * iterId + 2) ((coord + 1) % cfg.dim)
              (sum - r.weightLeft) (lo.set coord r.splitPos) hi with
          | oob => rfl
          | fuel => rfl
          | ok tr => rfl

theorem runTree_has_trace (wt : Int → Int → Bool) (cfg : Cfg) (iter : Nat) (pts : List (List α))
    (ws : List Int) (lo hi : List α) (t : Tree (NodeInfo α))
    (h : runTree wt cfg iter pts ws lo hi = .ok t) :
    ∃ tt, runTreeT wt cfg iter pts ws lo hi = .ok tt ∧ tt.map NodeTrace.info = t := by
  have he : Res.map (Tree.map NodeTrace.info) (runTreeT wt cfg iter pts ws lo hi) = .ok t :=
    (recurseT_erase wt cfg iter _ _ _ _ _ _).trans h
  cases hT : runTreeT wt cfg iter pts ws lo hi with
  | oob => rw [hT] at he; cases he
  | fuel => rw [hT] at he; cases he
  | ok tt =>
    rw [hT] at he
    simp only [Res.map, Res.ok.injEq] at he
    exact ⟨tt, rfl, he⟩

theorem members_map {ι κ : Type} (f : ι → κ) (t : Tree ι) : (t.map f).members = t.members := by
  induction t with
  | empty => rfl
  | leaf p ids => rfl
  | node i lo hi ihl ihh => simp [Tree.map, Tree.members, ihl, ihh]

/-- Every item carries the coordinates and the weight of the point its `id` names. -/
def ItemsOf (pts : List (List Int)) (ws : List Int) (items : List (Item Int)) : Prop :=
  ∀ x ∈ items, (∀ c, x.key c = ptKey pts x.id c) ∧ x.w = ws.getD x.id 0

theorem ItemsOf.mono {pts : List (List Int)} {ws : List Int} {L L' : List (Item Int)}
    (h : ItemsOf pts ws L) (hsub : ∀ x ∈ L', x ∈ L) : ItemsOf pts ws L' :=
  fun x hx => h x (hsub x hx)

theorem ItemsOf.forall_ptKey {pts : List (List Int)} {ws : List Int} {L : List (Item Int)}
    {ids : List Nat} (h : ItemsOf pts ws L) (hp : ids.Perm (L.map (·.id))) {coord : Nat}
    {P : Int → Prop} (hP : ∀ y ∈ L, P (y.key coord)) : ∀ i ∈ ids, P (ptKey pts i coord) := by
  intro i hi
  obtain ⟨y, hy, rfl⟩ := List.mem_map.1 (hp.mem_iff.1 hi)
  rw [← (h y hy).1 coord]
  exact hP y hy

theorem wOf_cons (ws : List Int) (i : Nat) (ids : List Nat) :
    wOf ws (i :: ids) = ws.getD i 0 + wOf ws ids := by
  simp [wOf]

theorem wOf_append (ws : List Int) (a b : List Nat) : wOf ws (a ++ b) = wOf ws a + wOf ws b := by
  simp [wOf]

theorem wOf_perm (ws : List Int) {a b : List Nat} (h : a.Perm b) : wOf ws a = wOf ws b :=
  perm_sum (h.map _)

theorem wOf_items {pts : List (List Int)} {ws : List Int} {L : List (Item Int)}
    (h : ItemsOf pts ws L) : wOf ws (L.map (·.id)) = sumW L := by
  induction L with
  | nil => rfl
  | cons x xs ih =>
    have hx := (h x List.mem_cons_self).2
    rw [List.map_cons, wOf_cons, sumW_cons, ← hx,
      ih (h.mono (fun y hy => List.mem_cons_of_mem _ hy))]

theorem wOf_of_perm {pts : List (List Int)} {ws : List Int} {L : List (Item Int)} {ids : List Nat}
    (h : ItemsOf pts ws L) (hp : ids.Perm (L.map (·.id))) : wOf ws ids = sumW L := by
  rw [wOf_perm ws hp, wOf_items h]

theorem Lw_perm {L L' : List (Item Int)} (h : L.Perm L') (coord : Nat) (v : Int) :
    Lw L coord v = Lw L' coord v :=
  sumW_perm (h.filter _)

theorem wOf_filter_lt {pts : List (List Int)} {ws : List Int} {L : List (Item Int)} {ids : List Nat}
    (h : ItemsOf pts ws L) (hp : ids.Perm (L.map (·.id))) (coord : Nat) (y : Item Int) (hy : y ∈ L) :
    wOf ws (ids.filter (fun j => Coord.lt (ptKey pts j coord) (ptKey pts y.id coord))) =
      Lw L coord (y.key coord) := by
  rw [wOf_perm ws (hp.filter _), List.filter_map,
    wOf_items (h.mono (fun x hx => (List.mem_filter.1 hx).1))]
  refine congrArg sumW (List.filter_congr fun x hx => ?_)
  simp only [Function.comp, ← (h x hx).1 coord, ← (h y hy).1 coord, int_lt]

theorem achievable_mem_iff {pts : List (List Int)} {ws : List Int} {L : List (Item Int)}
    {ids : List Nat} (h : ItemsOf pts ws L) (hp : ids.Perm (L.map (·.id))) (coord : Nat) (a : Int) :
    a ∈ achievable pts ws coord ids ↔ a ∈ achievableItems L coord := by
  simp only [achievable, achievableItems, List.mem_cons, List.mem_map]
  rw [wOf_of_perm h hp]
  constructor
  · rintro (rfl | ⟨i, hi, rfl⟩)
    · exact Or.inl rfl
    · obtain ⟨y, hy, rfl⟩ := List.mem_map.1 (hp.mem_iff.1 hi)
      exact Or.inr ⟨y, hy, (wOf_filter_lt h hp coord y hy).symm⟩
  · rintro (rfl | ⟨y, hy, rfl⟩)
    · exact Or.inl rfl
    · exact Or.inr ⟨y.id, hp.mem_iff.2 (List.mem_map.2 ⟨y, hy, rfl⟩), wOf_filter_lt h hp coord y hy⟩

theorem achievableItems_perm_mem {L L' : List (Item Int)} (h : L.Perm L') (coord : Nat) (a : Int) :
    a ∈ achievableItems L coord ↔ a ∈ achievableItems L' coord := by
  simp only [achievableItems, List.mem_cons, List.mem_map]
  rw [sumW_perm h]
  constructor
  · rintro (rfl | ⟨y, hy, rfl⟩)
    · exact Or.inl rfl
    · exact Or.inr ⟨y, h.mem_iff.1 hy, (Lw_perm h coord _).symm⟩
  · rintro (rfl | ⟨y, hy, rfl⟩)
    · exact Or.inl rfl
    · exact Or.inr ⟨y, h.mem_iff.2 hy, Lw_perm h coord _⟩

theorem bracketsHalf_congr {A B : List Int} (h : ∀ a, a ∈ A ↔ a ∈ B) (wl W : Int) :
    bracketsHalf A wl W = bracketsHalf B wl W :=
  Bool.eq_iff_iff.2 (by simp only [bracketsHalf_iff, h])

/-- C04's clause in the vocabulary of the caller (`nodeOk`: points, weights, member lists) is the
clause in the vocabulary of the search (`sumW`, `achievableItems`). -/
theorem nodeOk_of_items (wt : Int → Int → Bool) {pts : List (List Int)} {ws : List Int}
    {items L R : List (Item Int)} {lom him : List Nat} (coord : Nat)
    (hI : ItemsOf pts ws items) (hperm : (L ++ R).Perm items)
    (hl : lom.Perm (L.map (·.id))) (hr : him.Perm (R.map (·.id))) :
    nodeOk wt pts ws coord lom him =
      (wt (sumW L) (sumW items) || bracketsHalf (achievableItems items coord) (sumW L) (sumW items)) := by
  have hIlr : ItemsOf pts ws (L ++ R) := hI.mono (fun x hx => hperm.mem_iff.1 hx)
  have hIl : ItemsOf pts ws L := hIlr.mono (fun x hx => List.mem_append_left _ hx)
  have hall : (lom ++ him).Perm ((L ++ R).map (·.id)) := by
    rw [List.map_append]; exact hl.append hr
  unfold nodeOk
  simp only
  rw [wOf_of_perm hIl hl, wOf_of_perm hIlr hall, sumW_perm hperm]
  congr 1
  apply bracketsHalf_congr
  intro a
  rw [achievable_mem_iff hIlr hall coord a, achievableItems_perm_mem hperm coord a]

/-- `Resolved` over point indices: the members whose coordinate lies in the final search
interval carry at most one distinct coordinate value. -/
def ResolvedPts (pts : List (List Int)) (coord : Nat) (ids : List Nat) (mn mx : Int) (moved : Bool) :
    Prop :=
  ∀ i ∈ ids, ∀ j ∈ ids, InIv mn mx moved (ptKey pts i coord) → InIv mn mx moved (ptKey pts j coord) →
    ptKey pts i coord = ptKey pts j coord

def resolvedPtsB (pts : List (List Int)) (coord : Nat) (ids : List Nat) (mn mx : Int) (moved : Bool) :
    Bool :=
  ids.all (fun i => ids.all (fun j =>
    !(inIvB mn mx moved (ptKey pts i coord)) || !(inIvB mn mx moved (ptKey pts j coord)) ||
      decide (ptKey pts i coord = ptKey pts j coord)))

theorem resolvedPtsB_iff (pts : List (List Int)) (coord : Nat) (ids : List Nat) (mn mx : Int)
    (moved : Bool) : resolvedPtsB pts coord ids mn mx moved = true ↔ ResolvedPts pts coord ids mn mx moved :=
  resolved_all_iff ids (ptKey pts · coord) mn mx moved

theorem resolved_of_pts {pts : List (List Int)} {ws : List Int} {items : List (Item Int)}
    {ids : List Nat} (hI : ItemsOf pts ws items) (hp : ids.Perm (items.map (·.id))) (coord : Nat)
    (mn mx : Int) (moved : Bool) (h : ResolvedPts pts coord ids mn mx moved) :
    Resolved items coord mn mx moved := by
  intro x hx y hy hxi hyi
  have hxm : x.id ∈ ids := hp.mem_iff.2 (List.mem_map.2 ⟨x, hx, rfl⟩)
  have hym : y.id ∈ ids := hp.mem_iff.2 (List.mem_map.2 ⟨y, hy, rfl⟩)
  rw [(hI x hx).1 coord] at hxi ⊢
  rw [(hI y hy).1 coord] at hyi ⊢
  exact h _ hxm _ hym hxi hyi

/-- The premise of `split_balanced_partial` at a node of the instrumented tree: the search
left through the tolerance test, or its final interval is resolved. -/
def NodePremise (pts : List (List Int)) (tr : NodeTrace Int) (lo hi : Tree (NodeTrace Int)) : Prop :=
  tr.info.exit = .tolerance ∨
    ResolvedPts pts tr.info.coord (lo.members ++ hi.members) tr.lastMin tr.lastMax tr.maxMoved

def nodePremiseB (pts : List (List Int)) (tr : NodeTrace Int) (lo hi : Tree (NodeTrace Int)) : Bool :=
  tr.info.exit == .tolerance ||
    resolvedPtsB pts tr.info.coord (lo.members ++ hi.members) tr.lastMin tr.lastMax tr.maxMoved

theorem nodePremiseB_iff (pts : List (List Int)) (tr : NodeTrace Int) (lo hi : Tree (NodeTrace Int)) :
    nodePremiseB pts tr lo hi = true ↔ NodePremise pts tr lo hi := by
  unfold nodePremiseB NodePremise
  rw [Bool.or_eq_true, resolvedPtsB_iff, beq_iff_eq]

/-- `jinv_of_box` of Props/C04. -/
theorem jinv_of_box_aux (coord : Nat) (items : List (Item Int)) (hw : ∀ x ∈ items, 0 ≤ x.w)
    (mn mx : Int) (hne : items ≠ []) (hbox : ∀ x ∈ items, mn ≤ x.key coord ∧ x.key coord ≤ mx) :
    Jinv items coord (sumW items) mn mx false := by
  have hW0 := sumW_nonneg hw
  refine ⟨?_, ?_, ?_⟩
  · cases items with
    | nil => exact absurd rfl hne
    | cons x xs => have := hbox x List.mem_cons_self; omega
  · have : Lw items coord mn = 0 := by
      unfold Lw
      rw [List.filter_eq_nil_iff.2 (by intro x hx; have := hbox x hx; simp; omega)]
      rfl
    omega
  · rw [if_neg Bool.false_ne_true]
    have : Lle items coord mx = sumW items :=
      congrArg sumW (List.filter_eq_self.2 (by intro x hx; have := hbox x hx; simp; omega))
    omega

/-- This is what makes the clipped boxes handed to the children contain the children's items. -/
theorem split_sides (wt : Int → Int → Bool) {coord : Nat} {items : List (Item Int)}
    (hw : ∀ x ∈ items, 0 ≤ x.w) {fuel : Nat} {mn mx : Int} {out : SplitOut Int}
    (hJ : Jinv items coord (sumW items) mn mx false)
    (h : split wt coord (sumW items) items fuel 0 mn mx none false = .ok out) :
    (∀ x ∈ out.left, x.key coord ≤ out.splitPos) ∧ (∀ x ∈ out.right, out.splitPos ≤ x.key coord) := by
  have hJ1 := (split_jinv hw hJ h).1
  rcases split_facts h with ⟨_, h1, h2, _, hsp, hall⟩ | ⟨_, p, _, hpt, hpmin, hperm, hl, hr, _, hsp⟩
  · rw [h1, h2, hsp]
    exact ⟨fun x hx => by have := hall x hx; omega, fun _ hx => nomatch hx⟩
  · rw [hsp]
    refine ⟨fun x hx => Int.le_of_not_gt fun h2 => ?_, fun x hx => by have := hr x hx; omega⟩
    have := hl x hx
    have := hpmin x (hperm.subset (List.mem_append_left _ hx)) (Int.le_of_lt h2)
    omega

theorem forall_getD_set {β : Type} {l : List β} {n : Nat} (hl : l.length = n) (i : Nat) (v d : β)
    {P : Nat → β → Prop} (h : ∀ c, c < n → P c (l.getD c d)) (hv : P i v) :
    ∀ c, c < n → P c ((l.set i v).getD c d) := by
  intro c hc
  by_cases e : i = c
  · subst e; rw [getD_set_self l i v d (hl ▸ hc)]; exact hv
  · rw [getD_set_ne l i c v d e]; exact h c hc

/-- The bounding box `lo`, `hi` has `dim` coordinates and contains the items on every axis. -/
def BoxOk (dim : Nat) (items : List (Item Int)) (lo hi : List Int) : Prop :=
  lo.length = dim ∧ hi.length = dim ∧
    ∀ c, c < dim → ∀ x ∈ items, lo.getD c Coord.zero ≤ x.key c ∧ x.key c ≤ hi.getD c Coord.zero

theorem split_box (wt : Int → Int → Bool) {dim coord : Nat} {items : List (Item Int)}
    {lo hi : List Int} {fuel : Nat} {out : SplitOut Int} (hw : ∀ x ∈ items, 0 ≤ x.w)
    (hc : coord < dim) (hbox : BoxOk dim items lo hi) (hne : items ≠ [])
    (h : split wt coord (sumW items) items fuel 0 (lo.getD coord Coord.zero)
      (hi.getD coord Coord.zero) none false = .ok out) :
    Jinv items coord (sumW items) (lo.getD coord Coord.zero) (hi.getD coord Coord.zero) false ∧
    ((∀ y ∈ out.left, y.key coord ≤ out.splitPos) ∧ ∀ y ∈ out.right, out.splitPos ≤ y.key coord) ∧
    BoxOk dim out.left lo (hi.set coord out.splitPos) ∧
    BoxOk dim out.right (lo.set coord out.splitPos) hi := by
  obtain ⟨hlo, hhi, hin⟩ := hbox
  obtain ⟨hml, hmr⟩ := split_sub intOrderLaws (fun _ _ => trivial) h
  have hJ := jinv_of_box_aux coord items hw _ _ hne (hin coord hc)
  have hs := split_sides wt hw hJ h
  refine ⟨hJ, hs, ⟨hlo, (List.length_set ..).trans hhi, ?_⟩, ⟨(List.length_set ..).trans hlo, hhi, ?_⟩⟩
  · exact forall_getD_set hhi coord out.splitPos Coord.zero
      (P := fun c b => ∀ y ∈ out.left, lo.getD c Coord.zero ≤ y.key c ∧ y.key c ≤ b)
      (fun c hc y hy => hin c hc y (hml y hy))
      (fun y hy => ⟨(hin coord hc y (hml y hy)).1, hs.1 y hy⟩)
  · exact forall_getD_set hlo coord out.splitPos Coord.zero
      (P := fun c b => ∀ y ∈ out.right, b ≤ y.key c ∧ y.key c ≤ hi.getD c Coord.zero)
      (fun c hc y hy => hin c hc y (hmr y hy))
      (fun y hy => ⟨hs.2 y hy, (hin coord hc y (hmr y hy)).2⟩)

/-- What holds at EVERY bisection node of a run in exact arithmetic, whichever exit its
search took: the weights the code carries are the true weights of the members, and the node
meets C04's clause if its search left through the tolerance test.  With a box that contains
the items (`G`; it is not needed for the former): the interval the search starts from contains
the members, the two sides lie on their sides of `split_pos`, and the node meets C04's clause
if its last interval is resolved. -/
def NodeFacts (G : Prop) (wt : Int → Int → Bool) (pts : List (List Int)) (ws : List Int)
    (tr : NodeTrace Int) (lo hi : Tree (NodeTrace Int)) : Prop :=
  tr.info.sum = wOf ws (lo.members ++ hi.members) ∧
  tr.info.weightLeft = wOf ws lo.members ∧
  (tr.info.exit = .tolerance → nodeOk wt pts ws tr.info.coord lo.members hi.members = true) ∧
  (G →
    (∀ i ∈ lo.members ++ hi.members,
      tr.info.min ≤ ptKey pts i tr.info.coord ∧ ptKey pts i tr.info.coord ≤ tr.info.max) ∧
    (∀ i ∈ lo.members, ptKey pts i tr.info.coord ≤ tr.info.splitPos) ∧
    (∀ j ∈ hi.members, tr.info.splitPos ≤ ptKey pts j tr.info.coord) ∧
    (ResolvedPts pts tr.info.coord (lo.members ++ hi.members) tr.lastMin tr.lastMax tr.maxMoved →
      nodeOk wt pts ws tr.info.coord lo.members hi.members = true))

theorem NodeFacts.nodeOk_of_premise {G : Prop} {wt : Int → Int → Bool} {pts : List (List Int)}
    {ws : List Int} {tr : NodeTrace Int} {lo hi : Tree (NodeTrace Int)}
    (h : NodeFacts G wt pts ws tr lo hi) (g : G) (hp : NodePremise pts tr lo hi) :
    nodeOk wt pts ws tr.info.coord lo.members hi.members = true :=
  hp.elim h.2.2.1 (h.2.2.2 g).2.2.2

theorem recurseT_facts (G : Prop) (wt : Int → Int → Bool) (cfg : Cfg) (pts : List (List Int))
    (ws : List Int) :
    ∀ (k : Nat) (items : List (Item Int)) (iterId coord : Nat) (sum : Int) (lo hi : List Int)
      (tt : Tree (NodeTrace Int)),
      (∀ x ∈ items, 0 ≤ x.w) → ItemsOf pts ws items → sum = sumW items →
      (G → coord < cfg.dim ∧ BoxOk cfg.dim items lo hi) →
      recurseT wt cfg k items iterId coord sum lo hi = .ok tt →
      tt.members.Perm (items.map (·.id)) ∧ tt.AllNodes (NodeFacts G wt pts ws) := by
  intro k
  induction k with
  | zero =>
    intro items iterId coord sum lo hi tt _ _ _ _ h
    cases items <;> (cases h; exact ⟨.refl _, trivial⟩)
  | succ k ih =>
    intro items iterId coord sum lo hi tt hw hI hsum hG h
    cases items with
    | nil => cases h; exact ⟨.refl _, trivial⟩
    | cons x xs =>
      simp only [recurseT] at h
      split at h
      · cases h
      · cases h
      next r hr =>
      split at h
      · cases h
      · cases h
      next tl hl =>
      split at h
      · cases h
      · cases h
      next trr htr =>
      cases h
      subst hsum
      have hperm := (split_sep intOrderLaws (fun _ _ => trivial) hr).1
      obtain ⟨hml, hmr⟩ := split_sub intOrderLaws (fun _ _ => trivial) hr
      obtain ⟨hwl, hwr⟩ := split_reported_weight_aux hr
      have hbox := fun g => split_box wt hw (hG g).1 (hG g).2 (List.cons_ne_nil _ _) hr
      have hc' := fun g => Nat.mod_lt (coord + 1) (Nat.zero_lt_of_lt (hG g).1)
      obtain ⟨pl, al⟩ := ih r.left _ _ _ _ _ tl (fun y hy => hw y (hml y hy)) (hI.mono hml) hwl
        (fun g => ⟨hc' g, (hbox g).2.2.1⟩) hl
      obtain ⟨pr, ar⟩ := ih r.right _ _ _ _ _ trr (fun y hy => hw y (hmr y hy)) (hI.mono hmr) hwr
        (fun g => ⟨hc' g, (hbox g).2.2.2⟩) htr
      have hall : (tl.members ++ trr.members).Perm ((x :: xs).map (·.id)) := by
        have := pl.append pr
        rw [← List.map_append] at this
        exact this.trans (hperm.map _)
      have hok : (wt (sumW r.left) (sumW (x :: xs)) = true ∨
          bracketsHalf (achievableItems (x :: xs) coord) (sumW r.left) (sumW (x :: xs)) = true) →
          nodeOk wt pts ws coord tl.members trr.members = true := fun h => by
        rw [nodeOk_of_items wt coord hI hperm pl pr, Bool.or_eq_true]
        exact h
      refine ⟨hall, ⟨?_, ?_, ?_, fun g => ⟨?_, ?_, ?_, ?_⟩⟩, al, ar⟩
      · exact (wOf_of_perm hI hall).symm
      · exact hwl.trans (wOf_of_perm (hI.mono hml) pl).symm
      · exact fun he => hok (.inl (hwl ▸ split_exit_tol_aux hr he))
      · exact hI.forall_ptKey hall (P := fun v => lo.getD coord Coord.zero ≤ v ∧ v ≤ hi.getD coord Coord.zero)
          ((hG g).2.2.2 coord (hG g).1)
      · exact (hI.mono hml).forall_ptKey pl (P := (· ≤ r.splitPos)) (hbox g).2.1.1
      · exact (hI.mono hmr).forall_ptKey pr (P := (r.splitPos ≤ ·)) (hbox g).2.1.2
      · exact fun hres => hok (.inr (split_exit_resolved_aux hw (hbox g).1 hr
          (resolved_of_pts hI hall coord _ _ _ hres)))

theorem mkItems_w (pts : List (List Int)) (ws : List Int) (x : Item Int) (hx : x ∈ mkItems pts ws) :
    ws[x.id]? = some x.w :=
  (List.getElem?_zip_eq_some.1 (mkItems_zip pts ws x hx)).2

theorem mkItems_sum (pts : List (List Int)) (ws : List Int) (h : ws.length ≤ pts.length) :
    sumW (mkItems pts ws) = ws.sum := by
  simp only [sumW, mkItems, List.map_map]
  have : ((fun x : Item Int => x.w) ∘ fun x : (List Int × Int) × Nat => (⟨x.2, x.1.2, x.1.1⟩ : Item Int))
      = Prod.snd ∘ Prod.fst := rfl
  rw [this, ← List.map_map, List.zipIdx_map_fst, List.map_snd_zip h]

theorem mkItems_itemsOf (pts : List (List Int)) (ws : List Int) : ItemsOf pts ws (mkItems pts ws) := by
  intro x hx
  refine ⟨?_, ?_⟩
  · exact mkItems_ptKey pts ws x hx
  · have := mkItems_w pts ws x hx
    simp [List.getD_eq_getElem?_getD, this]

theorem mkItems_nonneg (pts : List (List Int)) (ws : List Int) (hw : ∀ w ∈ ws, 0 ≤ w) :
    ∀ x ∈ mkItems pts ws, 0 ≤ x.w := by
  intro x hx
  exact hw _ (List.mem_iff_getElem?.2 ⟨_, mkItems_w pts ws x hx⟩)

theorem minMaxFold_spec (xs : List Int) : ∀ (m : Int × Int),
    let r := xs.foldl (fun (m : Int × Int) v =>
      (if Coord.lt v m.1 then v else m.1, if Coord.lt m.2 v then v else m.2)) m
    r.1 ≤ m.1 ∧ m.2 ≤ r.2 ∧ ∀ v ∈ xs, r.1 ≤ v ∧ v ≤ r.2 := by
  induction xs with
  | nil => intro m; exact ⟨Int.le_refl _, Int.le_refl _, fun _ hv => nomatch hv⟩
  | cons a as ih =>
    intro m
    have hm1 : (if Coord.lt a m.1 then a else m.1) ≤ m.1 ∧ (if Coord.lt a m.1 then a else m.1) ≤ a := by
      by_cases h : a < m.1
      · rw [int_lt, if_pos (decide_eq_true h)]; exact ⟨Int.le_of_lt h, Int.le_refl a⟩
      · rw [int_lt, if_neg (mt of_decide_eq_true h)]; exact ⟨Int.le_refl m.1, Int.not_lt.1 h⟩
    have hm2 : m.2 ≤ (if Coord.lt m.2 a then a else m.2) ∧ a ≤ (if Coord.lt m.2 a then a else m.2) := by
      by_cases h : m.2 < a
      · rw [int_lt, if_pos (decide_eq_true h)]; exact ⟨Int.le_of_lt h, Int.le_refl a⟩
      · rw [int_lt, if_neg (mt of_decide_eq_true h)]; exact ⟨Int.le_refl m.2, Int.not_lt.1 h⟩
    obtain ⟨h1, h2, h3⟩ := ih (if Coord.lt a m.1 then a else m.1, if Coord.lt m.2 a then a else m.2)
    refine ⟨Int.le_trans h1 hm1.1, Int.le_trans hm2.1 h2, fun v hv => ?_⟩
    rcases List.mem_cons.1 hv with rfl | hv
    · exact ⟨Int.le_trans h1 hm1.2, Int.le_trans hm2.2 h2⟩
    · exact h3 v hv

theorem minMax_spec (l : List Int) (v : Int) (hv : v ∈ l) :
    ((minMax l).getD (Coord.zero, Coord.zero)).1 ≤ v ∧ v ≤ ((minMax l).getD (Coord.zero, Coord.zero)).2 := by
  cases l with
  | nil => cases hv
  | cons x xs =>
    simp only [minMax, Option.getD_some]
    obtain ⟨h1, h2, h3⟩ := minMaxFold_spec xs (x, x)
    rcases List.mem_cons.1 hv with rfl | hv
    · exact ⟨h1, h2⟩
    · exact h3 v hv

theorem bbox_length (dim : Nat) (pts : List (List α)) :
    (bbox dim pts).1.length = dim ∧ (bbox dim pts).2.length = dim := by
  simp [bbox]

theorem bbox_getD (dim : Nat) (pts : List (List α)) (c : Nat) (hc : c < dim) :
    (bbox dim pts).1.getD c Coord.zero =
        ((minMax (pts.map (fun p => p.getD c Coord.zero))).getD (Coord.zero, Coord.zero)).1 ∧
      (bbox dim pts).2.getD c Coord.zero =
        ((minMax (pts.map (fun p => p.getD c Coord.zero))).getD (Coord.zero, Coord.zero)).2 := by
  simp only [bbox, List.getD_eq_getElem?_getD, List.getElem?_map, List.getElem?_range hc,
    Option.map_some, Option.getD_some, and_self]

theorem bbox_boxOk (dim : Nat) (pts : List (List Int)) (ws : List Int) :
    BoxOk dim (mkItems pts ws) (bbox dim pts).1 (bbox dim pts).2 := by
  refine ⟨(bbox_length dim pts).1, (bbox_length dim pts).2, ?_⟩
  intro c hc x hx
  rw [(bbox_getD dim pts c hc).1, (bbox_getD dim pts c hc).2]
  apply minMax_spec
  have h1 := mkItems_key pts ws x hx
  exact List.mem_map.2 ⟨x.c, List.mem_iff_getElem?.2 ⟨_, h1⟩, rfl⟩

theorem Tree.AllNodes.imp {ι : Type} {P Q : ι → Tree ι → Tree ι → Prop}
    (h : ∀ i l r, P i l r → Q i l r) : ∀ {t : Tree ι}, t.AllNodes P → t.AllNodes Q := by
  intro t
  induction t with
  | empty => intro _; trivial
  | leaf p ids => intro _; trivial
  | node i lo hi ihl ihh => intro ⟨h1, h2, h3⟩; exact ⟨h _ _ _ h1, ihl h2, ihh h3⟩

theorem Tree.AllNodes.and {ι : Type} {P Q : ι → Tree ι → Tree ι → Prop} :
    ∀ {t : Tree ι}, t.AllNodes P → t.AllNodes Q → t.AllNodes (fun i l r => P i l r ∧ Q i l r) := by
  intro t
  induction t with
  | empty => intro _ _; trivial
  | leaf p ids => intro _ _; trivial
  | node i lo hi ihl ihh =>
    intro ⟨h1, h2, h3⟩ ⟨g1, g2, g3⟩; exact ⟨⟨h1, g1⟩, ihl h2 g2, ihh h3 g3⟩

theorem runTreeT_facts (G : Prop) (wt : Int → Int → Bool) (cfg : Cfg) (iter : Nat)
    (pts : List (List Int)) (ws : List Int) (lo hi : List Int) (tt : Tree (NodeTrace Int))
    (hw : ∀ w ∈ ws, 0 ≤ w) (hlen : ws.length = pts.length)
    (hG : G → 0 < cfg.dim ∧ BoxOk cfg.dim (mkItems pts ws) lo hi)
    (h : runTreeT wt cfg iter pts ws lo hi = .ok tt) :
    tt.members.Perm (List.range pts.length) ∧ tt.AllNodes (NodeFacts G wt pts ws) := by
  have := recurseT_facts G wt cfg pts ws iter (mkItems pts ws) 0 0 ws.sum lo hi tt
    (mkItems_nonneg pts ws hw) (mkItems_itemsOf pts ws) (mkItems_sum pts ws (by omega)).symm hG h
  rwa [mkItems_ids pts ws hlen] at this

theorem verdicts_all_iff (wt : Int → Int → Bool) (pts : List (List Int)) (ws : List Int)
    (Q : Exit × Bool → Prop) (tt : Tree (NodeTrace Int)) :
    (∀ v ∈ verdicts wt pts ws (tt.map NodeTrace.info), Q v) ↔
      tt.AllNodes (fun tr l h => Q (tr.info.exit, nodeOk wt pts ws tr.info.coord l.members h.members)) := by
  induction tt with
  | empty => simp [Tree.map, verdicts, Tree.AllNodes]
  | leaf p ids => simp [Tree.map, verdicts, Tree.AllNodes]
  | node i lo hi ihl ihh =>
    simp only [Tree.map, verdicts, Tree.AllNodes, List.mem_cons, List.mem_append, members_map,
      ← ihl, ← ihh]
    constructor
    · intro h
      exact ⟨h _ (Or.inl rfl), fun v hv => h v (Or.inr (Or.inl hv)), fun v hv => h v (Or.inr (Or.inr hv))⟩
    · rintro ⟨h1, h2, h3⟩ v (rfl | hv | hv)
      · exact h1
      · exact h2 v hv
      · exact h3 v hv

theorem balanced_map_iff (wt : Int → Int → Bool) (pts : List (List Int)) (ws : List Int)
    (tt : Tree (NodeTrace Int)) :
    balanced wt pts ws (tt.map NodeTrace.info) = true ↔
      tt.AllNodes (fun tr l h => nodeOk wt pts ws tr.info.coord l.members h.members = true) := by
  rw [balanced_iff_verdicts, verdicts_all_iff wt pts ws (fun v => v.2 = true)]

/-- Executable summary of an instrumented tree, pre-order: `(exit, premise?, ok?)`. -/
def verdictsT (wt : Int → Int → Bool) (pts : List (List Int)) (ws : List Int) :
    Tree (NodeTrace Int) → List (Exit × Bool × Bool)
  | .empty => []
  | .leaf _ _ => []
  | .node tr lo hi =>
    (tr.info.exit, nodePremiseB pts tr lo hi, nodeOk wt pts ws tr.info.coord lo.members hi.members) ::
      (verdictsT wt pts ws lo ++ verdictsT wt pts ws hi)

/-- Run `rcb` on integers with the instrumented recursion and summarise every node. -/
def judgeT (wt : Int → Int → Bool) (cfg : Cfg) (iter : Nat) (pts : List (List Int)) (ws : List Int) :
    Option (List (Exit × Bool × Bool)) :=
  let bb := bbox cfg.dim pts
  match runTreeT wt cfg iter pts ws bb.1 bb.2 with
  | .ok t => some (verdictsT wt pts ws t)
  | _ => none

/-- The tree `runTree` returns is the bisection tree that `rcb_is_bisection` (C03) exhibits. -/
theorem runTree_bisection_int (wt : Int → Int → Bool) (cfg : Cfg) (iter : Nat) (pts : List (List Int))
    (ws : List Int) (lo hi : List Int) (t : Tree (NodeInfo Int)) (hlen : ws.length = pts.length)
    (h : runTree wt cfg iter pts ws lo hi = .ok t) :
    IsBisection (ptKey pts) cfg.dim iter 0 0 t ∧ t.members.Perm (List.range pts.length) := by
  have := recurse_bisection intOrderLaws wt cfg (ptKey pts) iter _ _ _ _ _ _ t
    (fun x hx c => (mkItems_itemsOf pts ws x hx).1 c) (fun _ _ _ => trivial) h
  rwa [mkItems_ids pts ws hlen] at this

end Coupe.Rcb
