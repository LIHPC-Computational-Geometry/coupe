import CoupeModel.Proofs.Codec

/-!
# Lemmas for C19: MEDIT binary (version 4, little-endian) writer → reader

The reader is followed through what the writer produced, from the inside out: single
integers, the rows of a section (induction over the chunks of the flat arrays), one pass of
the section loop `binLoop` per section, the file header.
-/

namespace Coupe.Codec

/-- the closures `parse_binary` selects for what the writer emits. -/
abbrev fmt4 : BinFmt := ⟨true, 8, 8⟩

def InI64 (i : Int) : Prop := -9223372036854775808 ≤ i ∧ i < 9223372036854775808

instance (i : Int) : Decidable (InI64 i) :=
  inferInstanceAs (Decidable (-9223372036854775808 ≤ i ∧ i < 9223372036854775808))

theorem asUsize_nat (n : Nat) (h : n < 2 ^ 64) : asUsize (n : Int) = n := by
  unfold asUsize ofI64
  rw [Int.emod_eq_of_lt (Int.natCast_nonneg n) (by omega)]; rfl

theorem readInt_toLE (f : BinFmt) (k n : Nat) (rest : List Nat) :
    f.readInt k (toLE k n ++ rest)
      = some (if k = 4 then toI32 (f.nat (toLE k n)) else toI64 (f.nat (toLE k n)), rest) := by
  rw [BinFmt.readInt, readN_toLE]

theorem readInt8_toLE (n : Nat) (rest : List Nat) (h : n < 2 ^ 63) :
    fmt4.readInt 8 (toLE 8 n ++ rest) = some ((n : Int), rest) := by
  rw [readInt_toLE, if_neg (by decide), BinFmt.nat, if_pos rfl, fromLE_toLE 8 n (by omega), toI64,
    if_pos h]

theorem readInt8_encI64 (i : Int) (rest : List Nat) (h : InI64 i) :
    fmt4.readInt 8 (encI64 i ++ rest) = some (i, rest) := by
  rw [encI64, readInt_toLE, if_neg (by decide), BinFmt.nat, if_pos rfl,
    fromLE_toLE 8 _ (ofI64_lt i), toI64_ofI64 i h.1 h.2]

theorem readInt4_toLE (f : BinFmt) (hf : f.le = true) (n : Nat) (rest : List Nat)
    (h : n < 2 ^ 31) :
    f.readInt 4 (toLE 4 n ++ rest) = some ((n : Int), rest) := by
  rw [readInt_toLE, if_pos rfl, BinFmt.nat, if_pos hf, fromLE_toLE 4 n (by omega), toI32, if_pos h]

theorem readFloats_enc (cs rest : List Nat) (h : ∀ x ∈ cs, x < 2 ^ 64) :
    readFloats fmt4 cs.length (cs.flatMap (toLE 8) ++ rest) = .ok (cs, rest) := by
  induction cs with
  | nil => rfl
  | cons a as ih =>
    obtain ⟨ha, has⟩ := List.forall_mem_cons.mp h
    simp only [List.flatMap_cons, List.length_cons, List.append_assoc, readFloats, readN_toLE,
      ih has, BinFmt.nat, if_true, fromLE_toLE 8 a ha]

theorem readNodesB_enc (ns rest : List Nat) (h : ∀ n ∈ ns, n + 1 < 2 ^ 63) :
    readNodesB fmt4 ns.length (ns.flatMap encNode ++ rest) = .ok (ns, rest) := by
  induction ns with
  | nil => rfl
  | cons a as ih =>
    obtain ⟨ha, has⟩ := List.forall_mem_cons.mp h
    simp only [List.flatMap_cons, List.length_cons, List.append_assoc, readNodesB, encNode,
      readInt8_toLE (a + 1) _ ha, asUsize_nat (a + 1) (by omega), Nat.add_one_ne_zero, if_false,
      ih has, Nat.add_sub_cancel]

/-- A list of length `d * rs.length` is `rs.length` chunks of length `d`: induction over the
chunks, one per element of `rs`, for lists whose elements are in range (`p`, `q`). -/
theorem chunks_induction {α β : Type} (d : Nat) {p : α → Prop} {q : β → Prop}
    {P : List α → List β → Prop} (nil : P [] [])
    (cons : ∀ c cs r rs, c.length = d → (∀ x ∈ c, p x) → q r → P cs rs → P (c ++ cs) (r :: rs)) :
    ∀ (rs : List β) (cs : List α), cs.length = d * rs.length → (∀ x ∈ cs, p x) → (∀ r ∈ rs, q r) →
      P cs rs := by
  intro rs
  induction rs with
  | nil => intro cs hl _ _; rw [List.eq_nil_of_length_eq_zero hl]; exact nil
  | cons r rs ih =>
    intro cs hl hc hr
    rw [List.length_cons, Nat.mul_succ] at hl
    rw [← List.take_append_drop d cs] at hc ⊢
    obtain ⟨hc1, hc2⟩ := List.forall_mem_append.mp hc
    obtain ⟨hr1, hr2⟩ := List.forall_mem_cons.mp hr
    exact cons _ _ r rs (List.length_take_of_le (hl ▸ Nat.le_add_left d _)) hc1 hr1
      (ih _ (by rw [List.length_drop, hl, Nat.add_sub_cancel]) hc2 hr2)

theorem encVerts_chunk {d : Nat} {c : List Nat} (hc : c.length = d) (cs : List Nat) (r : Int)
    (rs : List Int) :
    encVerts d (c ++ cs) (r :: rs) = c.flatMap (toLE 8) ++ encI64 r ++ encVerts d cs rs := by
  rw [encVerts, if_neg (by rw [List.length_append]; omega), List.take_left' hc, List.drop_left' hc]

theorem encElems_chunk {k : Nat} {c : List Nat} (hc : c.length = k) (hk : 1 ≤ k) (cs : List Nat)
    (r : Int) (rs : List Int) :
    encElems k (c ++ cs) (r :: rs) = c.flatMap encNode ++ encI64 r ++ encElems k cs rs := by
  have hne : c ++ cs ≠ [] := fun h => by rw [← hc, (List.append_eq_nil_iff.mp h).1] at hk; cases hk
  rw [encElems, if_neg hne, List.take_left' hc, List.drop_left' hc]

theorem readVertsB_enc (d : Nat) : ∀ (rs : List Int) (cs : List Nat),
    cs.length = d * rs.length → (∀ x ∈ cs, x < 2 ^ 64) → (∀ r ∈ rs, InI64 r) →
    ∀ rest : List Nat,
    readVertsB fmt4 d rs.length (encVerts d cs rs ++ rest) = .ok (cs, rs, rest) := by
  refine chunks_induction d (fun _ => rfl) fun c cs r rs hd hc hr ih rest => ?_
  subst hd
  simp only [encVerts_chunk rfl, List.append_assoc, List.length_cons, readVertsB,
    readFloats_enc c _ hc, readInt8_encI64 r _ hr, ih rest]

theorem readElemsB_enc (k : Nat) (hk : 1 ≤ k) : ∀ (rs : List Int) (ns : List Nat),
    ns.length = k * rs.length → (∀ n ∈ ns, n + 1 < 2 ^ 63) → (∀ r ∈ rs, InI64 r) →
    ∀ rest : List Nat,
    readElemsB fmt4 k rs.length (encElems k ns rs ++ rest) = .ok (ns, rs, rest) := by
  refine chunks_induction k (fun _ => rfl) fun c ns r rs hd hc hr ih rest => ?_
  subst hd
  simp only [encElems_chunk rfl hk, List.append_assoc, List.length_cons, readElemsB,
    readNodesB_enc c _ hc, readInt8_encI64 r _ hr, ih rest]

theorem entries_lt {k n len bound : Nat} (hk : 1 ≤ k) (hl : len = k * n) (hs : len < bound) :
    n < bound :=
  Nat.lt_of_le_of_lt (hl ▸ Nat.le_mul_of_pos_left n hk) hs

theorem mulCap_ok {a b : Nat} (h : a * b < 2 ^ 60) : mulCap a b = .ok () := by
  rw [mulCap, if_neg (by omega), capOk8 h]; rfl

/-- the element types of the property's quantifier. -/
def Quantified (t : ElemType) : Prop :=
  t = .edge ∨ t = .triangle ∨ t = .quadrilateral ∨ t = .tetrahedron ∨ t = .hexahedron

/-- what `Mesh::from_raw_parts` asserts of a block, plus the ranges of `usize`
node indices (`node + 1` must fit `i64`), `isize` references and `Vec` sizes. -/
structure GoodBlock (b : Block) : Prop where
  ty : Quantified b.ty
  len : b.nodes.length = b.ty.nodeCount * b.refs.length
  nodes : ∀ n ∈ b.nodes, n + 1 < 9223372036854775808
  refs : ∀ r ∈ b.refs, InI64 r
  size : b.nodes.length < 1152921504606846976

theorem nodeCount_pos (t : ElemType) : 1 ≤ t.nodeCount := by cases t <;> decide
theorem nodeCount_le (t : ElemType) : t.nodeCount ≤ 8 := by cases t <;> decide

theorem Quantified.ne_vertex {t : ElemType} (h : Quantified t) : t ≠ .vertex := by
  rcases h with h | h | h | h | h <;> subst h <;> decide

/-- what `binLoop` tests of a section code. -/
theorem Quantified.code {t : ElemType} (h : Quantified t) :
    t.code < 2 ^ 31 ∧ (t.code : Int) ≠ 54 ∧ (t.code : Int) ≠ 4 ∧
      ElemType.fromCode (t.code : Int) = some t := by
  rcases h with h | h | h | h | h <;> subst h <;> decide

theorem binLoop_block (fuel pos : Nat) (m : Mesh) (b : Block) (g : GoodBlock b)
    (rest : List Nat) :
    binLoop fmt4 (fuel + 1)
        (toLE 4 b.ty.code ++ (toLE 8 pos ++ (toLE 8 b.refs.length
          ++ (encElems b.ty.nodeCount b.nodes b.refs ++ rest)))) m
      = binLoop fmt4 fuel rest { m with topo := m.topo ++ [b] } := by
  have hn := entries_lt (nodeCount_pos b.ty) g.len g.size
  obtain ⟨hc1, hc2, hc3, hc4⟩ := g.ty.code
  simp only [binLoop, readInt4_toLE fmt4 rfl _ _ hc1, if_neg hc2, if_neg hc3, hc4,
    readInt_toLE fmt4 8 pos, readInt8_toLE b.refs.length _ (by omega),
    asUsize_nat b.refs.length (by omega), mulCap_ok (g.len ▸ g.size), capOk8 hn,
    readElemsB_enc _ (nodeCount_pos b.ty) b.refs b.nodes g.len g.nodes g.refs,
    not_true_eq_false, if_false]

theorem encBlocks_length (pos : Nat) (blocks : List Block) (h : ∀ b ∈ blocks, b.ty ≠ .vertex) :
    blocks.length < (encBlocks pos blocks).length := by
  induction blocks generalizing pos with
  | nil => exact Nat.succ_pos 3
  | cons b bs ih =>
    obtain ⟨hb, hbs⟩ := List.forall_mem_cons.mp h
    have := ih (pos + 8 * b.refs.length * (b.ty.nodeCount + 1) + 20) hbs
    simp only [encBlocks, if_neg hb, List.length_append, toLE_length, List.length_cons]
    omega

theorem binLoop_encBlocks (blocks : List Block) : ∀ (pos fuel : Nat) (m : Mesh),
    blocks.length < fuel → (∀ b ∈ blocks, GoodBlock b) →
    binLoop fmt4 fuel (encBlocks pos blocks) m = .ok { m with topo := m.topo ++ blocks } := by
  induction blocks with
  | nil =>
    intro pos fuel m hf _
    obtain ⟨f, rfl⟩ := Nat.exists_eq_add_one_of_ne_zero (Nat.ne_zero_of_lt hf)
    rw [List.append_nil]; rfl
  | cons b bs ih =>
    intro pos fuel m hf hg
    obtain ⟨f, rfl⟩ := Nat.exists_eq_add_one_of_ne_zero (Nat.ne_zero_of_lt hf)
    obtain ⟨g, hgs⟩ := List.forall_mem_cons.mp hg
    rw [encBlocks, if_neg g.ty.ne_vertex]
    simp only [List.append_assoc]
    rw [binLoop_block f _ m b g, ih _ f _ (Nat.lt_of_succ_lt_succ hf) hgs, List.append_assoc]
    rfl

/-- a mesh as `Mesh::from_raw_parts` accepts it, with the value ranges of the
Rust types (`f64` patterns, `isize` refs, `Vec` sizes). -/
structure GoodMesh (m : Mesh) : Prop where
  dim1 : 1 ≤ m.dim
  dim2 : m.dim < 2147483648
  clen : m.coords.length = m.dim * m.nodeRefs.length
  coords : ∀ x ∈ m.coords, x < 18446744073709551616
  nrefs : ∀ r ∈ m.nodeRefs, InI64 r
  size : m.coords.length < 1152921504606846976
  blocks : ∀ b ∈ m.topo, GoodBlock b

theorem binLoop_vertices (fuel pos : Nat) (m : Mesh) (g : GoodMesh m) (rest : List Nat) :
    binLoop fmt4 (fuel + 1)
        (toLE 4 4 ++ (toLE 8 pos ++ (toLE 8 m.nodeRefs.length
          ++ (encVerts m.dim m.coords m.nodeRefs ++ rest)))) ⟨m.dim, [], [], []⟩
      = binLoop fmt4 fuel rest ⟨m.dim, m.coords, m.nodeRefs, []⟩ := by
  have hn := entries_lt g.dim1 g.clen g.size
  simp only [binLoop, readInt4_toLE fmt4 rfl 4 _ (by decide), readInt_toLE fmt4 8 pos,
    readInt8_toLE m.nodeRefs.length _ (by omega), asUsize_nat m.nodeRefs.length (by omega),
    mulCap_ok (Nat.mul_comm _ _ ▸ g.clen ▸ g.size), capOk8 hn,
    readVertsB_enc m.dim m.nodeRefs m.coords g.clen g.coords g.nrefs,
    Int.reduceEq, Int.cast_ofNat_Int, not_true_eq_false, if_false, if_true]

theorem decodeMeditBin_header (d : Nat) (hd : d < 2 ^ 31) (body : List Nat) :
    decodeMeditBin (toLE 4 1 ++ (toLE 4 4 ++ (toLE 4 3 ++ (toLE 8 24 ++ (toLE 4 d ++ body)))))
      = binLoop fmt4 (body.length + 1) body ⟨d, [], [], []⟩ := by
  have hm : fromLE (toLE 4 1) = 1 := rfl
  simp only [decodeMeditBin, readN_toLE, hm, readInt4_toLE ⟨true, 4, 4⟩ rfl 4 _ (by decide),
    readInt4_toLE fmt4 rfl 3 _ (by decide), readInt_toLE fmt4 8 24,
    readInt4_toLE fmt4 rfl d _ hd, asUsize_nat d (by omega),
    Int.reduceEq, Int.cast_ofNat_Int, ne_eq, not_true_eq_false, false_and, and_false, if_false,
    if_true, decide_true]

-- the sample of `Props/C19*.lean`: ±0, least subnormal, 1.0 and ±largest finite coordinates,
-- `isize::MIN/MAX` references, an empty block, two blocks of one type
def sampleMesh : Mesh :=
  ⟨2, [0, 0x3ff0000000000000, 0x8000000000000000, 1, 0x7fefffffffffffff, 0xffefffffffffffff],
    [0, -9223372036854775808, 9223372036854775807],
    [⟨.triangle, [0, 1, 2], [5]⟩, ⟨.edge, [], []⟩, ⟨.triangle, [2, 1, 0, 0, 0, 0], [-1, 3]⟩,
     ⟨.hexahedron, [0, 1, 2, 0, 1, 2, 0, 1], [0]⟩]⟩

end Coupe.Codec
