import CoupeModel.Model.Ckk
import CoupeModel.Proofs.NumPart

/-!
Lemmas on the model of `ckk.rs`.  A search node is a descending list `W` of `(weight, id)` pairs
and the stack `steps` that led to it.  Undoing one step (`undo_step`) turns an assignment of
the ids of the child into one of the parent and tells what the signed sum becomes; totality,
soundness and the two-way KK loop are inductions over it.
-/

namespace Coupe.Ckk

def sgn (x : Nat) : Int := if x = 0 then 1 else -1

def ssum (σ : Nat → Int) (W : List WI) : Int := (W.map fun x => x.1 * σ x.2).sum

theorem ssum_cons (σ : Nat → Int) (x : WI) (W : List WI) :
    ssum σ (x :: W) = x.1 * σ x.2 + ssum σ W := rfl

def sg (q : List Nat) (i : Nat) : Int := sgn (asg q i)

/-- The loop of `build`, started from an arbitrary array. -/
def unwind (steps : List Step) (q : List Nat) : Option (List Nat) :=
  steps.reverse.foldlM applyStep q

/-- Weights descending. -/
def Sorted (l : List WI) : Prop := l.Pairwise (fun x y => y.1 ≤ x.1)

def Asg (W : List WI) (q : List Nat) : Prop :=
  ∀ x ∈ W, x.2 < q.length ∧ asg q x.2 ≤ 1

theorem unwind_nil (q : List Nat) : unwind [] q = some q := rfl

theorem unwind_snoc (steps : List Step) (s : Step) (q : List Nat) :
    unwind (steps ++ [s]) q = (applyStep q s).bind (unwind steps) := by
  simp only [unwind, List.reverse_append, List.reverse_cons, List.reverse_nil, List.nil_append,
    List.cons_append, List.foldlM_cons]
  rfl

theorem unwind_cons (s : Step) (steps : List Step) (q : List Nat) :
    unwind (s :: steps) q = (unwind steps q).bind fun q' => applyStep q' s := by
  simp only [unwind, List.reverse_cons, List.foldlM_append, List.foldlM_cons, List.foldlM_nil,
    bind_pure]
  rfl

theorem build_eq (p : List Nat) (last : Nat) (steps : List Step) :
    build p last steps = if last < p.length then unwind steps (p.set last 0) else none := rfl

theorem applyStep_eq {q : List Nat} {s : Step} (ha : s.a < q.length) (hb : s.b < q.length)
    (hv : asg q s.a ≤ 1) :
    applyStep q s = some (q.set s.b (if s.separate then 1 - asg q s.a else asg q s.a)) := by
  unfold applyStep
  rw [asg_of_lt ha] at hv ⊢
  rw [List.getElem?_eq_getElem ha]
  simp only [hb, if_true]
  cases s.separate <;> simp [hv]

theorem insDesc_eq (e : WI) (l : List WI) : insDesc e l = insBy wiLt e l := by
  induction l with
  | nil => rfl
  | cons x xs ih => simp only [insDesc, insBy, ih]

theorem perm_insDesc (e : WI) (l : List WI) : (insDesc e l).Perm (e :: l) :=
  insDesc_eq e l ▸ perm_insBy wiLt e l

theorem mem_insDesc {e y : WI} {l : List WI} : y ∈ insDesc e l ↔ y = e ∨ y ∈ l :=
  (perm_insDesc e l).mem_iff.trans List.mem_cons

theorem length_insDesc (e : WI) (l : List WI) : (insDesc e l).length = l.length + 1 :=
  (perm_insDesc e l).length_eq

theorem insDesc_ne_nil (e : WI) (l : List WI) : insDesc e l ≠ [] :=
  List.ne_nil_of_length_pos (length_insDesc e l ▸ Nat.succ_pos _)

theorem wiLt_true_le {e x : WI} (h : wiLt e x = true) : e.1 ≤ x.1 := by
  simp only [wiLt, Bool.or_eq_true, Bool.and_eq_true, decide_eq_true_eq, beq_iff_eq] at h
  omega

theorem wiLt_false_le {e x : WI} (h : ¬ wiLt e x = true) : x.1 ≤ e.1 := by
  simp only [wiLt, Bool.or_eq_true, Bool.and_eq_true, decide_eq_true_eq, beq_iff_eq] at h
  omega

theorem sorted_insDesc {e : WI} {l : List WI} (h : Sorted l) : Sorted (insDesc e l) :=
  insDesc_eq e l ▸ pairwise_insBy (fun h₁ h₂ => Int.le_trans h₂ h₁) (fun _ => wiLt_true_le)
    (fun _ => wiLt_false_le) h

theorem perm_sortDesc (l : List WI) : (sortDesc l).Perm l := by
  induction l with
  | nil => exact .refl _
  | cons x xs ih => exact (perm_insDesc x _).trans (ih.cons x)

theorem mem_sortDesc {y : WI} {l : List WI} : y ∈ sortDesc l ↔ y ∈ l :=
  (perm_sortDesc l).mem_iff

theorem length_sortDesc (l : List WI) : (sortDesc l).length = l.length :=
  (perm_sortDesc l).length_eq

theorem sorted_sortDesc (l : List WI) : Sorted (sortDesc l) := by
  induction l with
  | nil => exact List.Pairwise.nil
  | cons x xs ih => exact sorted_insDesc ih

theorem ssum_perm (σ : Nat → Int) {W₁ W₂ : List WI} (h : W₁.Perm W₂) : ssum σ W₁ = ssum σ W₂ :=
  perm_sum (h.map _)

theorem ssum_insDesc (σ : Nat → Int) (e : WI) (l : List WI) :
    ssum σ (insDesc e l) = e.1 * σ e.2 + ssum σ l :=
  ssum_perm σ (perm_insDesc e l)

theorem ssum_sortDesc (σ : Nat → Int) (l : List WI) : ssum σ (sortDesc l) = ssum σ l :=
  ssum_perm σ (perm_sortDesc l)

theorem ssum_congr {σ τ : Nat → Int} {W : List WI} (h : ∀ x ∈ W, σ x.2 = τ x.2) :
    ssum σ W = ssum τ W :=
  congrArg List.sum (List.map_congr_left fun x hx => by rw [h x hx])

theorem sgn_cases (x : Nat) : sgn x = 1 ∨ sgn x = -1 := by
  unfold sgn; split <;> simp

theorem sgn_flip {x : Nat} (h : x ≤ 1) : sgn (1 - x) = - sgn x := by
  have : x = 0 ∨ x = 1 := by omega
  rcases this with rfl | rfl <;> rfl

theorem sg_set {q : List Nat} {i : Nat} (j v : Nat) (hi : i < q.length) :
    sg (q.set i v) j = if i = j then sgn v else sg q j := by
  unfold sg
  rw [asg_set j v hi]
  split <;> rfl

theorem ssum_sg {q : List Nat} {W : List WI} (h : ∀ x ∈ W, asg q x.2 ≤ 1) :
    ssum (sg q) W = wsum (asg q) 0 W - wsum (asg q) 1 W := by
  -- slot by slot, what part `0` gets is the signed weight plus what part `1` gets
  refine (Int.sub_eq_iff_eq_add.2 ?_).symm
  rw [ssum, wsum, wsum, ← sum_map_add]
  refine congrArg List.sum (List.map_congr_left fun x hx => ?_)
  have : asg q x.2 = 0 ∨ asg q x.2 = 1 := by have := h x hx; omega
  rcases this with e | e <;> simp [sg, e, sgn, Int.add_left_neg]

theorem ssum_sg_zipIdx (ws : List Int) (ids : List Nat)
    (hlen : ids.length = ws.length) (h01 : ∀ i ∈ ids, i ≤ 1) :
    ssum (sg ids) ws.zipIdx = load ws ids 0 - load ws ids 1 := by
  have hf : ∀ i (h : i < ids.length), asg ids i = ids[i] := fun i h => asg_of_lt h
  rw [ssum_sg, wsum_zipIdx _ 0 ws ids 0 hlen hf, wsum_zipIdx _ 1 ws ids 0 hlen hf]
  intro x hx
  have hx2 : x.2 < ids.length := by have := List.snd_lt_of_mem_zipIdx hx; omega
  rw [asg_of_lt hx2]
  exact h01 _ (List.getElem_mem hx2)

/-! Undoing one step: the parent node is `(aw, ai) :: (bw, bi) :: rest`, the child
`insDesc (w', ai) rest` with `⟨ai, bi, sep⟩` pushed. -/

theorem ids_lt_step {L ai bi : Nat} {aw bw : Int} (w' : Int) {rest : List WI}
    (hid : ∀ x ∈ (aw, ai) :: (bw, bi) :: rest, x.2 < L) : ∀ x ∈ insDesc (w', ai) rest, x.2 < L := by
  intro x hx
  rcases mem_insDesc.1 hx with rfl | hx
  · exact hid (aw, ai) List.mem_cons_self
  · exact hid x (List.mem_cons_of_mem _ (List.mem_cons_of_mem _ hx))

theorem nodup_step {ai bi : Nat} {aw bw : Int} (w' : Int) {rest : List WI}
    (hnd : (((aw, ai) :: (bw, bi) :: rest).map (·.2)).Nodup) :
    ((insDesc (w', ai) rest).map (·.2)).Nodup := by
  rw [((perm_insDesc (w', ai) rest).map (·.2)).nodup_iff]
  exact hnd.sublist ((List.sublist_cons_self bi _).cons_cons ai)

theorem undo_step {L : Nat} {q : List Nat} {ai bi : Nat} (aw bw : Int) {w' : Int}
    {rest : List WI} (sep : Bool) (hq : q.length = L) (hasg : Asg (insDesc (w', ai) rest) q)
    (hbi : bi < L) :
    ∃ q', applyStep q ⟨ai, bi, sep⟩ = some q' ∧ q'.length = L ∧
      Asg ((aw, ai) :: (bw, bi) :: rest) q' ∧
      ((((aw, ai) :: (bw, bi) :: rest).map (·.2)).Nodup →
        ssum (sg q') ((aw, ai) :: (bw, bi) :: rest) =
          (if sep then aw - bw else aw + bw) * sg q ai + ssum (sg q) rest) := by
  have ha : ai < q.length ∧ asg q ai ≤ 1 := hasg (w', ai) (mem_insDesc.2 (.inl rfl))
  have hb : bi < q.length := hq ▸ hbi
  refine ⟨q.set bi (if sep then 1 - asg q ai else asg q ai),
    applyStep_eq (s := ⟨ai, bi, sep⟩) ha.1 hb ha.2, by rw [List.length_set, hq],
    fun x hx => ?_, fun hnd => ?_⟩
  · rw [List.length_set, asg_set _ _ hb]
    by_cases h : bi = x.2
    · rw [if_pos h]
      exact ⟨h ▸ hb, by cases sep; exact ha.2; exact Nat.sub_le 1 _⟩
    · rw [if_neg h]
      rcases List.mem_cons.1 hx with rfl | hx
      · exact ha
      rcases List.mem_cons.1 hx with rfl | hx
      · exact absurd rfl h
      · exact hasg x (mem_insDesc.2 (.inr hx))
  · simp only [List.map_cons, List.nodup_cons, List.mem_cons, List.mem_map, not_or] at hnd
    have hrest : ∀ v, ssum (sg (q.set bi v)) rest = ssum (sg q) rest := fun v =>
      ssum_congr fun x hx => by
        rw [sg_set _ _ hb, if_neg fun h => hnd.2.1 ⟨x, hx, h.symm⟩]
    simp only [ssum_cons, hrest, sg_set _ _ hb, if_neg (Ne.symm hnd.1.1), if_true]
    cases sep
    · simp only [Bool.false_eq_true, if_false, Int.add_mul]
      exact (Int.add_assoc ..).symm
    · simp only [if_true, sgn_flip ha.2, Int.sub_mul, Int.mul_neg]
      show _ + (-(bw * sg q ai) + _) = _
      omega

theorem asg_leaf {p : List Nat} {id : Nat} (w : Int) (h : id < p.length) :
    Asg [(w, id)] (p.set id 0) := by
  intro x hx
  rw [List.mem_singleton.1 hx, List.length_set, asg_set _ _ h, if_pos rfl]
  exact ⟨h, Nat.zero_le 1⟩

theorem ssum_leaf {p : List Nat} {id : Nat} (w : Int) (h : id < p.length) :
    ssum (sg (p.set id 0)) [(w, id)] = w := by
  rw [ssum_cons, sg_set _ _ h, if_pos rfl]
  exact (Int.add_zero _).trans (Int.mul_one w)

theorem rec_ne_none (cfg : Cfg) (fuel : Nat) (p : List Nat) (W : List WI) (tol : Int)
    (steps : List Step)
    (hfuel : W.length ≤ fuel) (hne : W ≠ [])
    (hid : ∀ x ∈ W, x.2 < p.length)
    (hsafe : ∀ q, q.length = p.length → Asg W q → unwind steps q ≠ none) :
    rec cfg fuel p W tol steps ≠ none := by
  induction fuel generalizing W steps with
  | zero => exact absurd (List.length_eq_zero_iff.1 (Nat.le_zero.1 hfuel)) hne
  | succ fuel ih =>
    obtain _ | ⟨⟨aw, ai⟩, _ | ⟨⟨bw, bi⟩, rest⟩⟩ := W
    · exact absurd rfl hne
    · have hlt : ai < p.length := hid _ List.mem_cons_self
      have hb := hsafe _ (List.length_set ..) (asg_leaf aw hlt)
      simp only [rec, build_eq, if_pos hlt]
      split
      · split
        · exact Option.some_ne_none _
        · next hnone => exact absurd hnone hb
      · exact Option.some_ne_none _
    have hbi : bi < p.length := hid (bw, bi) (by simp)
    have hstep : ∀ (w' : Int) (sep : Bool),
        rec cfg fuel p (insDesc (w', ai) rest) tol (steps ++ [⟨ai, bi, sep⟩]) ≠ none := by
      intro w' sep
      refine ih _ _ ?_ (insDesc_ne_nil _ _) (ids_lt_step w' hid) ?_
      · rw [length_insDesc]; exact Nat.le_of_succ_le_succ hfuel
      · intro q hlen hq
        obtain ⟨q', hq', hl', ha', -⟩ := undo_step aw bw sep hlen hq hbi
        rw [unwind_snoc, hq']
        exact hsafe q' hl' ha'
    simp only [rec]
    split
    · next hnone => exact absurd hnone (hstep _ _)
    · exact Option.some_ne_none _
    · exact hstep _ _

theorem rec_sound (cfg : Cfg) (hc : cfg.sumSeparate = false) (fuel : Nat) (p : List Nat)
    (W : List WI) (tol : Int) (steps : List Step) (q : List Nat)
    (hs : Sorted W) (hnn : ∀ x ∈ W, 0 ≤ x.1) (hnd : (W.map (·.2)).Nodup)
    (hid : ∀ x ∈ W, x.2 < p.length)
    (h : rec cfg fuel p W tol steps = some (some q)) :
    ∃ q', unwind steps q' = some q ∧ q'.length = p.length ∧ Asg W q' ∧
      0 ≤ ssum (sg q') W ∧ ssum (sg q') W ≤ tol := by
  induction fuel generalizing W steps with
  | zero => cases h
  | succ fuel ih =>
    obtain _ | ⟨⟨aw, ai⟩, _ | ⟨⟨bw, bi⟩, rest⟩⟩ := W
    · cases h
    · have hlt : ai < p.length := hid _ List.mem_cons_self
      simp only [rec, build_eq, if_pos hlt] at h
      split at h
      · next hle =>
        split at h
        · next q0 hq0 =>
          cases h
          refine ⟨p.set ai 0, hq0, List.length_set .., asg_leaf aw hlt, ?_⟩
          rw [ssum_leaf aw hlt]
          exact ⟨hnn _ List.mem_cons_self, hle⟩
        · cases h
      · cases h
    have hba : bw ≤ aw := (List.pairwise_cons.1 hs).1 (bw, bi) List.mem_cons_self
    have hb0 : 0 ≤ bw := hnn (bw, bi) (by simp)
    obtain ⟨sep, hrec⟩ : ∃ sep, rec cfg fuel p (insDesc (if sep then aw - bw else aw + bw, ai) rest)
        tol (steps ++ [⟨ai, bi, sep⟩]) = some (some q) := by
      simp only [rec] at h
      split at h
      · cases h
      · next q1 hq1 => cases h; exact ⟨true, hq1⟩
      · rw [hc] at h; exact ⟨false, h⟩
    obtain ⟨q'', hun, hlen, hasg, hsum⟩ := ih _ _
      (sorted_insDesc (List.pairwise_cons.1 (List.pairwise_cons.1 hs).2).2)
      (fun x hx => by
        rcases mem_insDesc.1 hx with rfl | hx
        · cases sep
          · exact Int.add_nonneg (Int.le_trans hb0 hba) hb0
          · exact Int.sub_nonneg.2 hba
        · exact hnn x (by simp [hx]))
      (nodup_step _ hnd) (ids_lt_step _ hid) hrec
    obtain ⟨q', hq', hl', ha', hs'⟩ := undo_step aw bw sep hlen hasg (hid (bw, bi) (by simp))
    rw [unwind_snoc, hq'] at hun
    rw [ssum_insDesc, ← hs' hnd] at hsum
    exact ⟨q', hun, hl', ha', hsum⟩

theorem pair_signed (aw bw : Int) {s t : Int} (hs : s = 1 ∨ s = -1) (ht : t = 1 ∨ t = -1) :
    aw * s + bw * t = (aw - bw) * s ∨ aw * s + bw * t = (aw + bw) * s := by
  have : t = s ∨ t = -s := by rcases hs with rfl | rfl <;> rcases ht with rfl | rfl <;> decide
  rcases this with rfl | rfl
  · exact .inr (Int.add_mul ..).symm
  · exact .inl (by rw [Int.mul_neg, Int.sub_mul, Int.sub_eq_add_neg])

theorem rec_complete (cfg : Cfg) (fuel : Nat) (p : List Nat) (W : List WI) (tol : Int)
    (steps : List Step) (h : rec cfg fuel p W tol steps = some none)
    (σ : Nat → Int) (hσ : ∀ i, σ i = 1 ∨ σ i = -1) :
    tol < ((ssum σ W).natAbs : Int) := by
  induction fuel generalizing W steps with
  | zero => cases h
  | succ fuel ih =>
    obtain _ | ⟨⟨aw, ai⟩, _ | ⟨⟨bw, bi⟩, rest⟩⟩ := W
    · cases h
    · simp only [rec] at h
      split at h
      · split at h <;> cases h
      · next hle =>
        -- `|aw * σ ai| = |aw| ≥ aw > tol`
        have h1 : (σ ai).natAbs = 1 := by rcases hσ ai with h1 | h1 <;> rw [h1] <;> rfl
        show tol < ((aw * σ ai + 0).natAbs : Int)
        rw [Int.add_zero, Int.natAbs_mul, h1, Nat.mul_one]
        exact Int.lt_of_lt_of_le (Int.not_le.1 hle) Int.le_natAbs
    simp only [rec] at h
    split at h
    · cases h
    · cases h
    · next hdiff =>
      have h1 := ih _ _ hdiff
      have h2 := ih _ _ h
      rw [ssum_insDesc] at h1 h2
      show tol < ((aw * σ ai + (bw * σ bi + ssum σ rest)).natAbs : Int)
      rw [← Int.add_assoc]
      rcases pair_signed aw bw (hσ ai) (hσ bi) with e | e <;> rw [e]
      · exact h1
      · exact h2

theorem init_ne_nil {ws : List Int} (hne : ws ≠ []) : sortDesc ws.zipIdx ≠ [] :=
  List.ne_nil_of_length_pos (by
    rw [length_sortDesc, List.length_zipIdx]; exact List.length_pos_iff.2 hne)

theorem init_id_lt (ws : List Int) : ∀ x ∈ sortDesc ws.zipIdx, x.2 < ws.length := by
  intro x hx
  have := List.snd_lt_of_mem_zipIdx (mem_sortDesc.1 hx)
  omega

theorem init_nonneg (ws : List Int) (hnn : ∀ w ∈ ws, 0 ≤ w) :
    ∀ x ∈ sortDesc ws.zipIdx, 0 ≤ x.1 := by
  intro x hx
  have := List.mem_zipIdx_iff_getElem?.1 (mem_sortDesc.1 hx)
  exact hnn _ (List.mem_of_getElem? this)

theorem init_nodup (ws : List Int) : ((sortDesc ws.zipIdx).map (·.2)).Nodup := by
  rw [(List.Perm.map _ (perm_sortDesc ws.zipIdx)).nodup_iff, List.zipIdx_map_snd]
  exact List.nodup_range' 1

theorem mem_init (ws : List Int) {i : Nat} (h : i < ws.length) : (ws[i], i) ∈ sortDesc ws.zipIdx :=
  mem_sortDesc.2 (List.mem_zipIdx_iff_getElem?.2 (by simp [h]))

theorem init_asg_le_one (ws : List Int) (q : List Nat) (hlen : q.length = ws.length)
    (h : Asg (sortDesc ws.zipIdx) q) : ∀ i ∈ q, i ≤ 1 := by
  intro i hi
  obtain ⟨j, hj, rfl⟩ := List.mem_iff_getElem.1 hi
  have := (h _ (mem_init ws (hlen ▸ hj))).2
  rwa [asg_of_lt hj] at this

theorem run_eq_of_len {cfg : Cfg} {p : List Nat} {ws : List Int} {tol : Int}
    (hlen : ws.length = p.length) (hne : ws ≠ []) :
    run cfg p ws tol =
      match rec cfg (sortDesc ws.zipIdx).length p (sortDesc ws.zipIdx) tol [] with
      | none => .abort
      | some none => .notFound
      | some (some q) => .ok q := by
  unfold run
  simp only [hlen, ne_eq, not_true_eq_false, if_false, List.isEmpty_iff, hne]
  rfl

theorem len_of_run {cfg : Cfg} {p : List Nat} {ws : List Int} {tol : Int}
    (h : run cfg p ws tol ≠ .lenMismatch) : ws.length = p.length :=
  Classical.byContradiction fun hne => h (if_pos hne)

theorem run_rec_ne_none (cfg : Cfg) (p : List Nat) (ws : List Int) (tol : Int)
    (hlen : ws.length = p.length) (hne : ws ≠ []) :
    rec cfg (sortDesc ws.zipIdx).length p (sortDesc ws.zipIdx) tol [] ≠ none :=
  rec_ne_none _ _ _ _ _ _ (Nat.le_refl _) (init_ne_nil hne) (fun x hx => hlen ▸ init_id_lt ws x hx)
    fun _ _ _ => Option.some_ne_none _

end Coupe.Ckk
