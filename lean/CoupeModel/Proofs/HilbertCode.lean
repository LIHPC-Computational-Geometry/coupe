import CoupeModel.Proofs.Hilbert

/-!
# The `u64` code mirrors compute the table machines (C08)

`slow2U` (= `encode_2d_slow`), `lut`, `fast2Z` (= `encode_2d` after interleaving) and
`enc3Loop` (= `encode_3d`) are compared with `runN`, the machine `run` read on the radix-`R`
digits of a number; the word operations of the code are first turned into `/`, `%`, `*`, `+`.
-/

namespace Coupe.Hilbert
open Coupe.Gen.HilbertTables

theorem m2_R : m2.R = 4 := rfl
theorem m2_S : m2.S = 4 := rfl
theorem m2_base (c q : Nat) : m2.base c q = base2 c q := rfl
theorem m2_conf (c q : Nat) : m2.conf c q = conf2 c q := rfl
theorem m3_base (c q : Nat) : m3.base c q = base3 c q := rfl
theorem m3_conf (c q : Nat) : m3.conf c q = conf3 c q := rfl

theorem base2_lt {c q : Nat} (hc : c < 4) (hq : q < 4) : base2 c q < 4 := m2_valid.base_lt c hc q hq
theorem conf2_lt {c q : Nat} (hc : c < 4) (hq : q < 4) : conf2 c q < 4 := m2_valid.conf_lt c hc q hq
theorem base3_lt {c q : Nat} (hc : c < 12) (hq : q < 8) : base3 c q < 8 := m3_valid.base_lt c hc q hq
theorem conf3_lt {c q : Nat} (hc : c < 12) (hq : q < 8) : conf3 c q < 12 := m3_valid.conf_lt c hc q hq

/-- The machine on the `i` low radix-`R` digits of `z`, as numbers (no word size):
index and final state. -/
def runN (m : Mach) (c i z : Nat) : Nat × Nat :=
  (ofDigits m.R (run m c (digits m.R i z)).1, (run m c (digits m.R i z)).2)

theorem runN_succ (m : Mach) (c i z : Nat) :
    runN m c (i + 1) z =
      (m.base c (z / m.R ^ i % m.R) * m.R ^ i + (runN m (m.conf c (z / m.R ^ i % m.R)) i z).1,
       (runN m (m.conf c (z / m.R ^ i % m.R)) i z).2) := by
  simp only [runN, digits, run, ofDigits, run_length, digits_length]

theorem runN_lt {m : Mach} (hv : Valid m) {c : Nat} (hc : c < m.S) (i z : Nat) :
    (runN m c i z).1 < m.R ^ i ∧ (runN m c i z).2 < m.S := by
  have hd := digits_lt hv.R_pos i z
  have hl := ofDigits_run_lt hv hc hd
  rw [digits_length] at hl
  exact ⟨hl, (run_spec hv _ c hc hd).2.1⟩

theorem runN_eq_lt {m : Mach} (hv : Valid m) {c : Nat} (hc : c < m.S) {i z a b : Nat}
    (h : runN m c i z = (a, b)) : a < m.R ^ i ∧ b < m.S := by
  have hl := runN_lt hv hc i z
  rwa [h] at hl

theorem runN_append (m : Mach) (c a b z : Nat) :
    runN m c (a + b) z =
      ((runN m c a (z / m.R ^ b)).1 * m.R ^ b + (runN m (runN m c a (z / m.R ^ b)).2 b z).1,
       (runN m (runN m c a (z / m.R ^ b)).2 b z).2) := by
  simp only [runN, digits_split, run_append, ofDigits_append, run_length, digits_length]

theorem runN_mod (m : Mach) (c i z : Nat) : runN m c i (z % m.R ^ i) = runN m c i z := by
  simp only [runN, digits_mod i i z (Nat.le_refl _)]

theorem runN_pad {m : Mach} (hv : Valid m) {c : Nat} (hc : c < m.S) (a e u : Nat) :
    (runN m c (a + e) (u * m.R ^ e)).1 / m.R ^ e = (runN m c a u).1 := by
  rw [runN_append, Nat.mul_div_cancel _ (Nat.pow_pos hv.R_pos)]
  exact mul_add_div (runN_lt hv (runN_lt hv hc a u).2 e _).1

theorem digit_eq (n z i : Nat) : (z >>> (n * i)) &&& (2 ^ n - 1) = z / (2 ^ n) ^ i % 2 ^ n := by
  rw [Nat.shiftRight_eq_div_pow, Nat.pow_mul]
  exact Nat.and_two_pow_sub_one_eq_mod _ n

theorem mul_two_pow_or {b n : Nat} (a : Nat) (hb : b < 2 ^ n) : (a * 2 ^ n) ||| b = a * 2 ^ n + b := by
  rw [← Nat.shiftLeft_eq]
  exact (Nat.shiftLeft_add_eq_or_of_lt hb a).symm

theorem shl_or {h b : Nat} (n : Nat) (hh : h * 2 ^ n < W64) (hb : b < 2 ^ n) :
    ((h <<< n) % W64) ||| b = h * 2 ^ n + b := by
  rw [Nat.shiftLeft_eq, Nat.mod_eq_of_lt hh, mul_two_pow_or h hb]

/-- Clearing the `n` low bits of an `N`-bit word (Rust: `x & !(2^n - 1)`). -/
theorem and_not_low {x n N : Nat} (hn : n ≤ N) (hx : x < 2 ^ N) :
    x &&& (2 ^ N - 2 ^ n) = x / 2 ^ n * 2 ^ n := by
  have hpos := Nat.two_pow_pos n
  have hle := Nat.pow_le_pow_right (by decide : 0 < 2) hn
  apply Nat.eq_of_testBit_eq
  intro j
  rw [show 2 ^ N - 2 ^ n = 2 ^ N - (2 ^ n - 1 + 1) by omega, Nat.testBit_and,
    Nat.testBit_two_pow_sub_succ (by omega), Nat.testBit_two_pow_sub_one, Nat.testBit_mul_two_pow,
    Nat.testBit_div_two_pow]
  by_cases hj : n ≤ j
  · by_cases hjN : j < N
    · simp [hj, hjN, Nat.sub_add_cancel hj]
    · have hbit := Nat.testBit_lt_two_pow
        (Nat.lt_of_lt_of_le hx (Nat.pow_le_pow_right (by decide) (Nat.le_of_not_lt hjN)))
      simp [hj, hjN, Nat.sub_add_cancel hj, hbit]
  · simp [hj, Nat.lt_of_not_le hj]

/-- Room for one more radix-`R` digit `b` in a word that has room for `i + 1` of them
(`P = R^i`). -/
theorem push_digit_room {h b R P W : Nat} (hb : b < R) (hP : 0 < P) (hh : (h + 1) * (P * R) ≤ W) :
    h * R < W ∧ (h * R + b + 1) * P ≤ W := by
  rw [Nat.mul_comm P R, ← Nat.mul_assoc, Nat.succ_mul] at hh
  have h1 : h * R + R ≤ (h * R + R) * P := Nat.le_mul_of_pos_right _ hP
  have h2 : (h * R + b + 1) * P ≤ (h * R + R) * P := Nat.mul_le_mul_right P (by omega)
  omega

theorem push_digit_eq (h b R P r : Nat) : (h * R + b) * P + r = h * (P * R) + (b * P + r) := by
  ring

/-! ## `encode_2d_slow` -/

theorem quad_eq (z i : Nat) : (z >>> (2 * i)) &&& 3 = z / 4 ^ i % 4 := digit_eq 2 z i

theorem slow2Loop_eq (z : Nat) : ∀ i h c, c < 4 → (h + 1) * 4 ^ i ≤ W64 →
    slow2Loop z i h c = (h * 4 ^ i + (runN m2 c i z).1, (runN m2 c i z).2)
  | 0, h, c, _, _ => by simp [slow2Loop, runN, digits, run, ofDigits]
  | i + 1, h, c, hc, hh => by
    have hq : z / 4 ^ i % 4 < 4 := Nat.mod_lt _ (by decide)
    have hb := base2_lt hc hq
    rw [Nat.pow_succ] at hh
    have hroom := push_digit_room hb (Nat.pow_pos (by decide)) hh
    rw [slow2Loop, quad_eq, shl_or 2 hroom.1 hb, show (2 : Nat) ^ 2 = 4 from rfl,
      slow2Loop_eq z i _ _ (conf2_lt hc hq) hroom.2, runN_succ, Nat.pow_succ]
    exact congrArg (·, _) (push_digit_eq ..)

/-- Orders up to 32: `4^32 = 2^64`, the index does not wrap. -/
theorem slow2U_eq {order c : Nat} (ho : order ≤ 32) (hc : c < 4) (z : Nat) :
    slow2U z order c = runN m2 c order z := by
  have h : (0 + 1) * 4 ^ order ≤ W64 := by
    rw [Nat.zero_add, Nat.one_mul]
    exact Nat.pow_le_pow_right (n := 4) (by decide) ho
  rw [slow2U, slow2Loop_eq z order 0 c hc h, Nat.zero_mul, Nat.zero_add]

/-! ## `encode_2d`: 6 quadrants per table lookup -/

theorem and_fff (x : Nat) : x &&& 4095 = x % 4096 := Nat.and_two_pow_sub_one_eq_mod x 12

/-- `config & !0xfff` on `u16`. -/
theorem hi_mask {x : Nat} (h : x < 65536) : x &&& 61440 = x / 4096 * 4096 :=
  and_not_low (n := 12) (N := 16) (by decide) h

theorem or_lo {w : Nat} (c : Nat) (hw : w < 4096) : (c * 4096) ||| w = c * 4096 + w :=
  mul_two_pow_or (n := 12) c hw

/-- The lookup table entry: 6 steps of the machine, packed `state << 12 | digits`. -/
theorem lut_spec {c w : Nat} (hc : c < 4) (hw : w < 4096) :
    lut (c * 4096 + w) = (runN m2 c 6 w).2 * 4096 + (runN m2 c 6 w).1 := by
  have hl := runN_lt m2_valid hc 6 w
  have hl1 : (runN m2 c 6 w).1 < 4096 := hl.1
  have hl2 : (runN m2 c 6 w).2 < 4 := hl.2
  simp only [lut, LUT2_MASK, LUT2_BITS, LUT2_ORDER]
  rw [and_fff, Nat.shiftRight_eq_div_pow, mul_add_mod hw, show (2 : Nat) ^ 12 = 4096 from rfl,
    mul_add_div hw, slow2U_eq (by decide) hc, Nat.shiftLeft_eq, show (2 : Nat) ^ 12 = 4096 from rfl,
    Nat.mod_eq_of_lt (by omega : (runN m2 c 6 w).2 * 4096 < 65536),
    Nat.mod_eq_of_lt (by omega : (runN m2 c 6 w).1 < 65536)]
  exact or_lo _ hl1

theorem lookup_eq {cfg w v : Nat} (hc : cfg / 4096 < 4) (hw : w < 4096)
    (hv : v = lut ((cfg &&& (65535 - LUT2_MASK)) ||| w)) :
    runN m2 (cfg / 4096) 6 w = (v % 4096, v / 4096) := by
  have hl : (runN m2 (cfg / 4096) 6 w).1 < 4096 := (runN_lt m2_valid hc 6 w).1
  rw [hv, show 65535 - LUT2_MASK = 61440 from rfl, hi_mask (by omega), or_lo _ hw, lut_spec hc hw,
    mul_add_mod hl, mul_add_div hl]

theorem shift_room {hil a b : Nat} (h : hil < 4 ^ a) (hab : a + b ≤ 32) : hil * 2 ^ (2 * b) < W64 := by
  rw [Nat.pow_mul]
  refine Nat.lt_of_lt_of_le ?_ (Nat.pow_le_pow_right (n := 4) (by decide) hab)
  rw [Nat.pow_add]
  exact Nat.mul_lt_mul_of_pos_right h (Nat.pow_pos (by decide))

/-- One turn of the loop of `encode_2d`, with `t` quadrants still to come after this
group: if `hil` and the top bits of `cfg` hold index and state of the machine after the
leading `n` quadrants, the new values hold them after `n + 6`. -/
theorem fast2_step {z t n cfg hil v : Nat} (hn : n + 6 ≤ 32)
    (h : runN m2 0 n (z / 4 ^ (t + 6)) = (hil, cfg / 4096))
    (hv : v = lut ((cfg &&& (65535 - LUT2_MASK)) ||| ((z >>> (2 * t)) &&& LUT2_MASK))) :
    runN m2 0 (n + 6) (z / 4 ^ t) =
      (((hil <<< LUT2_BITS) % W64) ||| (v &&& LUT2_MASK), v / 4096) := by
  have hs : hil < 4 ^ n ∧ cfg / 4096 < 4 := runN_eq_lt m2_valid (by decide) h
  have hw : (z >>> (2 * t)) &&& LUT2_MASK = z / 4 ^ t % 4096 := by
    rw [Nat.shiftRight_eq_div_pow, Nat.pow_mul]
    exact and_fff _
  rw [hw] at hv
  have hlk := (runN_mod m2 _ 6 (z / 4 ^ t)).symm.trans
    (lookup_eq hs.2 (Nat.mod_lt _ (by decide)) hv)
  have hroom : hil * 2 ^ 12 < W64 := shift_room (b := 6) hs.1 hn
  have happ := runN_append m2 0 n 6 (z / 4 ^ t)
  simp only [m2_R, Nat.div_div_eq_div_mul, ← Nat.pow_add, h, hlk] at happ
  rw [show LUT2_MASK = 4095 from rfl, show LUT2_BITS = 12 from rfl, and_fff,
    shl_or 12 hroom (Nat.mod_lt v (by decide) : v % 4096 < 2 ^ 12), happ]
  rfl

/-- The code after the loop of `encode_2d`: the last `m ≤ 6` quadrants are looked up
padded with `e = 6 - m` zero quadrants on the right, and the output of the padding is
shifted out again. -/
theorem fast2_last {z n m e cfg hil v : Nat} (hme : m + e = 6) (hk : n + m ≤ 32)
    (h : runN m2 0 n (z / 4 ^ m) = (hil, cfg / 4096))
    (hv : v = lut ((cfg &&& (65535 - LUT2_MASK)) ||| (((z <<< (2 * e)) % W64) &&& LUT2_MASK))) :
    ((hil <<< (2 * m)) % W64) ||| ((v &&& LUT2_MASK) >>> (2 * e)) = (runN m2 0 (n + m) z).1 := by
  have hs : hil < 4 ^ n ∧ cfg / 4096 < 4 := runN_eq_lt m2_valid (by decide) h
  have hw : ((z <<< (2 * e)) % W64) &&& LUT2_MASK = z % 4 ^ m * 4 ^ e := by
    rw [show LUT2_MASK = 4095 from rfl, and_fff, Nat.shiftLeft_eq, Nat.pow_mul,
      Nat.mod_mod_of_dvd _ (by decide : 4096 ∣ W64), show (4096 : Nat) = 4 ^ 6 from rfl, ← hme,
      Nat.pow_add, Nat.mul_mod_mul_right]
  have hwlt : z % 4 ^ m * 4 ^ e < 4096 := by
    have h1 := Nat.mul_lt_mul_of_pos_right (Nat.mod_lt z (Nat.pow_pos (by decide) : 0 < 4 ^ m))
      (Nat.pow_pos (by decide) : 0 < 4 ^ e)
    rwa [← Nat.pow_add, hme] at h1
  rw [hw] at hv
  have hlk := lookup_eq hs.2 hwlt hv
  have hlast : (runN m2 (cfg / 4096) m z).1 < 4 ^ m := (runN_lt m2_valid hs.2 m z).1
  have hroom := shift_room hs.1 hk
  have hpad := runN_pad m2_valid hs.2 m e (z % 4 ^ m)
  have hmod := runN_mod m2 (cfg / 4096) m z
  have happ := runN_append m2 0 n m z
  simp only [m2_R, hme, hlk, h] at hpad hmod happ
  rw [hmod] at hpad
  rw [show LUT2_MASK = 4095 from rfl, and_fff, Nat.shiftRight_eq_div_pow, Nat.pow_mul,
    show (2 : Nat) ^ 2 = 4 from rfl, hpad, shl_or (2 * m) hroom (by rw [Nat.pow_mul]; exact hlast),
    Nat.pow_mul, happ]

/-- The loop of `encode_2d` with `r` quadrants still unread (`shift = 2r - 12`) and the
leading `n` consumed: it stops with at most 6 unread, the invariant of `fast2_step` kept. -/
theorem fast2Loop_inv (z : Nat) : ∀ fuel r n cfg hil,
    runN m2 0 n (z / 4 ^ r) = (hil, cfg / 4096) → n + r ≤ 32 → r ≤ fuel + 6 →
    ∃ (r' n' cfg' hil' : Nat),
      fast2Loop z fuel (2 * (r : Int) - 12) cfg hil = (2 * (r' : Int) - 12, cfg', hil') ∧
      runN m2 0 n' (z / 4 ^ r') = (hil', cfg' / 4096) ∧ n' + r' = n + r ∧ r' ≤ 6
  | 0, r, n, cfg, hil, hinv, _, hf => ⟨r, n, cfg, hil, rfl, hinv, rfl, by omega⟩
  | fuel + 1, r, n, cfg, hil, hinv, hk, hf => by
    rw [fast2Loop]
    by_cases hs : 2 * (r : Int) - 12 > 0
    · obtain ⟨t, rfl⟩ : ∃ t, r = t + 6 := ⟨r - 6, by omega⟩
      have hstep := fast2_step (by omega) hinv rfl
      rw [if_pos hs]
      dsimp only
      rw [show (2 * ((t + 6 : Nat) : Int) - 12).toNat = 2 * t by omega,
        show 2 * ((t + 6 : Nat) : Int) - 12 - ((LUT2_BITS : Nat) : Int) = 2 * (t : Int) - 12 by
          rw [show LUT2_BITS = 12 from rfl]; omega]
      obtain ⟨r', n', cfg', hil', h1, h2, h3, h4⟩ :=
        fast2Loop_inv z fuel t (n + 6) _ _ hstep (by omega) (by omega)
      exact ⟨r', n', cfg', hil', h1, h2, by omega, h4⟩
    · rw [if_neg hs]
      exact ⟨r, n, cfg, hil, rfl, hinv, rfl, by omega⟩

theorem fast2Loop_spec (z : Nat) {k : Nat} (hk : k ≤ 32) :
    ∃ (r n cfg hil : Nat),
      fast2Loop z k (2 * (k : Int) - LUT2_BITS) 0 0 = (2 * (r : Int) - 12, cfg, hil) ∧
      runN m2 0 n (z / 4 ^ r) = (hil, cfg / 4096) ∧ n + r = k ∧ r ≤ 6 := by
  have h := fast2Loop_inv z k k 0 0 0 rfl (by omega) (by omega)
  rwa [Nat.zero_add] at h

theorem fast2Z_eq {k : Nat} (hk : k ≤ 32) (z : Nat) : fast2Z z k = (runN m2 0 k z).1 := by
  obtain ⟨r, n, cfg, hil, hloop, hinv, rfl, hr⟩ := fast2Loop_spec z hk
  obtain ⟨e, he⟩ : ∃ e, r + e = 6 := ⟨6 - r, by omega⟩
  have hs1 : (-(2 * (r : Int) - 12)).toNat = 2 * e := by omega
  have hs2 : (((LUT2_BITS : Nat) : Int) + (2 * (r : Int) - 12)).toNat = 2 * r := by
    rw [show LUT2_BITS = 12 from rfl]; omega
  simp only [fast2Z, hloop, hs1, hs2]
  exact fast2_last he hk hinv rfl

/-! ## `encode_3d` -/

theorem oct_eq (z i : Nat) : (z >>> (3 * i)) &&& 7 = z / 8 ^ i % 8 := digit_eq 3 z i

theorem or_oct {c q : Nat} (hq : q < 8) : (8 * c) ||| q = 8 * c + q := by
  rw [Nat.mul_comm]
  exact mul_two_pow_or (n := 3) c hq

/-- Every entry of the 3-D table is `8 · next state + digit` with a valid next state. -/
theorem lut3_lt {s q : Nat} (hs : s < 12) (hq : q < 8) : LUT3.getD (8 * s + q) 0 < 96 := by
  have h : LUT3.getD (8 * s + q) 0 / 8 < 12 := conf3_lt hs hq
  omega

/-- `config &= !7` on `u64`. -/
theorem clear7 {v : Nat} (hv : v < W64) : v &&& (W64 - 8) = 8 * (v / 8) := by
  rw [Nat.mul_comm]
  exact and_not_low (n := 3) (N := 64) (by decide) hv

theorem enc3Loop_eq (z : Nat) : ∀ i h c, c < 12 → (h + 1) * 8 ^ i ≤ W64 →
    enc3Loop z i (8 * c) h = h * 8 ^ i + (runN m3 c i z).1
  | 0, h, c, _, _ => by simp [enc3Loop, runN, digits, run, ofDigits]
  | i + 1, h, c, hc, hh => by
    have hq : z / 8 ^ i % 8 < 8 := Nat.mod_lt _ (by decide)
    have hb := base3_lt hc hq
    have hv : LUT3.getD (8 * c + z / 8 ^ i % 8) 0 < W64 := Nat.lt_trans (lut3_lt hc hq) (by decide)
    rw [Nat.pow_succ] at hh
    have hroom := push_digit_room hb (Nat.pow_pos (by decide)) hh
    rw [enc3Loop, oct_eq, or_oct hq, clear7 hv, show (7 : Nat) = 2 ^ 3 - 1 from rfl,
      Nat.and_two_pow_sub_one_eq_mod]
    show enc3Loop z i (8 * conf3 c (z / 8 ^ i % 8)) (((h <<< 3) % W64) ||| base3 c (z / 8 ^ i % 8)) = _
    rw [shl_or 3 hroom.1 hb, show (2 : Nat) ^ 3 = 8 from rfl, enc3Loop_eq z i _ _ (conf3_lt hc hq) hroom.2,
      runN_succ, Nat.pow_succ]
    exact push_digit_eq ..

/-- Orders up to 21: `8^21 = 2^63`, the index does not wrap. -/
theorem enc3Loop_spec {order : Nat} (ho : order ≤ 21) (z : Nat) :
    enc3Loop z order 0 0 = (runN m3 0 order z).1 := by
  have h : (0 + 1) * 8 ^ order ≤ W64 := by
    rw [Nat.zero_add, Nat.one_mul]
    exact Nat.le_trans (Nat.pow_le_pow_right (n := 8) (by decide) ho) (by decide)
  have := enc3Loop_eq z order 0 0 (by decide) h
  rwa [Nat.zero_mul, Nat.zero_add] at this

end Coupe.Hilbert
