import CoupeModel.Model.Basic
import CoupeModel.Model.Metrics
import CoupeModel.Model.Kl
import CoupeModel.Model.Fm
import CoupeModel.Model.ArcSwap
import CoupeModel.Proofs.Metrics
import CoupeModel.Proofs.Fm
import CoupeModel.Proofs.ArcSwapCut

/-!
# One edge cut: the definitions of C05 / C07 / C15 / C16 agree

C16 (`Model/Metrics.lean`), C15 (`Model/Kl.lean`), C07 (`Model/Fm.lean`) and C05
(`Proofs/ArcSwapCut.lean`) each carry their own definition of the edge cut.  `cutDef` is the
reference: the sum, over the unordered pairs `{i, j}` lying in different parts, of the weight
`w(i, j)`.  C16's default method on `topoOf g` is the hub: each model's function is shown equal
to it, and it to `cutDef`; `Props/Bridge.lean` draws the conclusions.

`Kl.Graph`, `Fm.Graph` and `ArcSwap.Graph` are (reducibly) the same type `List (List (Nat × Int))`,
`g[v]` = the stored `(neighbour, weight)` entries of row `v`, which is what the harness feeds;
`Bridge.Graph` is that type again, so no conversion is applied between them.  C16 uses a topology
`(len, neighbours)` or the raw CSR arrays: `topoOf g` and `rowsOf m` convert.
-/

namespace Coupe.Bridge

open Coupe.Metrics (sumTo entry part)

abbrev Row := List (Nat × Int)

/-- Adjacency rows: `g[v]` = the stored `(neighbour, weight)` entries of vertex `v`. -/
abbrev Graph := List Row

/-- The three list-of-rows graph types are the same type. -/
theorem graph_types_agree :
    Coupe.Kl.Graph = Graph ∧ Coupe.Fm.Graph = Graph ∧ Coupe.ArcSwap.Graph = Graph :=
  ⟨rfl, rfl, rfl⟩

def row (g : Graph) (v : Nat) : Row := g.getD v []

/-- `w(i, j)`: the weight stored in row `i` for neighbour `j` (the sum of the entries, should
the row store `j` more than once; `0` when `j` is not a neighbour of `i`). -/
def weight (g : Graph) (i j : Nat) : Int :=
  (((row g i).filter (fun e => e.1 == j)).map (·.2)).sum

def sumRange (n : Nat) (f : Nat → Int) : Int := ((List.range n).map f).sum

/-- THE edge cut: the sum, over the unordered pairs `{i, j}`, `i < j < n`, whose end points lie
in different parts, of the edge weight `w(i, j)`.  (`p[v]` is read with default `0`, like every
model does.) -/
def cutDef (g : Graph) (p : List Nat) : Int :=
  sumRange g.length fun j => sumRange j fun i =>
    if p.getD i 0 ≠ p.getD j 0 then weight g i j else 0

def Symm (g : Graph) : Prop :=
  ∀ i j, i < g.length → j < g.length → weight g i j = weight g j i

/-- Every row is sorted by neighbour id (repetitions allowed). -/
def SortedRows (g : Graph) : Prop :=
  ∀ v, v < g.length → (row g v).Pairwise (fun a b => a.1 ≤ b.1)

instance (g : Graph) : Decidable (Symm g) := by
  unfold Symm
  exact decidable_of_iff (∀ i ∈ List.range g.length, ∀ j ∈ List.range g.length,
      weight g i j = weight g j i)
    ⟨fun h i j hi hj => h i (List.mem_range.mpr hi) j (List.mem_range.mpr hj),
     fun h i hi j hj => h i j (List.mem_range.mp hi) (List.mem_range.mp hj)⟩

instance (g : Graph) : Decidable (SortedRows g) := by
  unfold SortedRows; infer_instance

/-- The topology C16's default methods see for the rows `g`. -/
def topoOf (g : Graph) : Coupe.Metrics.Topo := ⟨g.length, row g⟩

/-- The rows of a CSR view (`outer_view(v)` for every `v`): what `Kl`/`Fm`/`ArcSwap` receive
when they are handed the matrix `m`. -/
def rowsOf (m : Coupe.Metrics.Csr) : Graph := (List.range m.n).map m.row

theorem sumRange_eq_sumTo (n : Nat) (f : Nat → Int) : sumRange n f = sumTo n f := by
  unfold sumRange
  induction n with
  | zero => rfl
  | succ n ih =>
    rw [List.range_succ, List.map_append, List.sum_append, ih]
    simp [sumTo]

theorem sum_zipIdx (g : Graph) (F : Nat → Row → Int) :
    (g.zipIdx.map fun x => F x.2 x.1).sum = sumRange g.length fun v => F v (row g v) := by
  unfold sumRange
  rw [zipIdx_eq_map_range g [], List.map_map]
  rfl

theorem weight_eq_entry (g : Graph) (i j : Nat) : weight g i j = entry (row g i) j := rfl

theorem symm_iff_metrics (g : Graph) : Symm g ↔ Coupe.Metrics.Symmetric (topoOf g) := Iff.rfl

theorem edgeCutTopo_eq_cutDef (g : Graph) (p : List Nat) (hs : Symm g) :
    Coupe.Metrics.edgeCutTopo (topoOf g) p = cutDef g p := by
  rw [Coupe.Metrics.edgeCutTopo_eq_lower]
  simp only [cutDef, sumRange_eq_sumTo]
  refine Coupe.Metrics.sumTo_congr fun i hi => Coupe.Metrics.sumTo_congr fun j hj => ?_
  -- the code reads the entry `(i, j)` below the diagonal, `cutDef` the entry `(j, i)` above it
  show (if part p i ≠ part p j then weight g i j else 0) =
    if part p j ≠ part p i then weight g j i else 0
  rw [hs i j hi (Nat.lt_trans hj hi)]
  simp only [ne_comm]

theorem arcswap_cut_eq_topo (g : Graph) (p : List Nat) :
    Coupe.ArcSwap.cut g p = Coupe.Metrics.edgeCutTopo (topoOf g) p := by
  unfold Coupe.ArcSwap.cut Coupe.Metrics.edgeCutTopo
  rw [sum_zipIdx g (fun v r => Coupe.ArcSwap.rowCut p v r), sumRange_eq_sumTo]
  rfl

/-- `Kl.edgeCut` and `Fm.edgeCut` are the same function (the sprs specialisation). -/
theorem kl_edgeCut_eq_fm (g : Graph) (p : List Nat) :
    Coupe.Kl.edgeCut g p = Coupe.Fm.edgeCut g p := rfl

theorem kl_edgeCut_eq_sprsRows (g : Graph) (p : List Nat) :
    Coupe.Kl.edgeCut g p = Coupe.Metrics.edgeCutSprsRows g.length (row g) p := by
  unfold Coupe.Kl.edgeCut Coupe.Metrics.edgeCutSprsRows
  rw [sum_zipIdx g (fun v r => Coupe.Kl.rowCut p v r), sumRange_eq_sumTo]
  rfl

theorem kl_edgeCut_eq_topo (g : Graph) (p : List Nat) (hsort : SortedRows g) :
    Coupe.Kl.edgeCut g p = Coupe.Metrics.edgeCutTopo (topoOf g) p := by
  rw [kl_edgeCut_eq_sprsRows]
  exact Coupe.Metrics.edgeCutSprsRows_eq_topo (topoOf g) p hsort

theorem wtRow_eq_weight (g : Graph) (i j : Nat) :
    Coupe.Fm.wtRow (Coupe.Fm.rowOf g i) j = weight g i j := by
  unfold Coupe.Fm.wtRow weight
  rw [filter_map_sum]
  simp only [beq_iff_eq]
  rfl

theorem symm_of_fm_valid {g : Graph} (V : Coupe.Fm.Valid g) : Symm g := by
  intro i j hi hj
  rw [← wtRow_eq_weight, ← wtRow_eq_weight]
  exact V.sym i hi j hj

theorem sorted_of_fm_valid {g : Graph} (V : Coupe.Fm.Valid g) : SortedRows g :=
  fun v hv => (V.sorted v hv).imp (fun h => Nat.le_of_lt h)

theorem weight_eq_S (g : Graph) (i j : Nat) :
    weight g i j =
      Coupe.ArcSwap.S g (fun e => if e.1 = i then (if e.2.1 = j then e.2.2 else 0) else 0) := by
  have h := Coupe.ArcSwap.S_row g i (fun r => if r.1 = j then r.2 else 0)
  rw [h]
  unfold weight
  rw [filter_map_sum]
  simp only [beq_iff_eq]
  rfl

/-- `ArcSwap.Sym`: the multiset of stored entries is closed under transposition. -/
theorem symm_of_arcswap_sym {g : Graph} (hs : Coupe.ArcSwap.Sym g) : Symm g := by
  intro i j _ _
  rw [weight_eq_S g i j, weight_eq_S g j i]
  rw [← Coupe.ArcSwap.S_swap hs
    (fun e => if e.1 = i then (if e.2.1 = j then e.2.2 else 0) else 0)]
  apply Coupe.ArcSwap.S_congr
  intro e _
  obtain ⟨a, b, w⟩ := e
  simp only [Coupe.ArcSwap.swapE]
  by_cases h1 : a = j <;> by_cases h2 : b = i <;> simp [h1, h2]

theorem rowsOf_length (m : Coupe.Metrics.Csr) : (rowsOf m).length = m.n := by
  simp [rowsOf]

theorem row_rowsOf (m : Coupe.Metrics.Csr) (v : Nat) (hv : v < m.n) : row (rowsOf m) v = m.row v := by
  unfold row rowsOf
  rw [List.getD_eq_getElem?_getD, List.getElem?_map, List.getElem?_range hv]
  rfl

theorem edgeCutTopo_rowsOf (m : Coupe.Metrics.Csr) (p : List Nat) :
    Coupe.Metrics.edgeCutTopo m.topo p = Coupe.Metrics.edgeCutTopo (topoOf (rowsOf m)) p := by
  unfold Coupe.Metrics.edgeCutTopo topoOf Coupe.Metrics.Csr.topo
  simp only [rowsOf_length]
  exact Coupe.Metrics.sumTo_congr (fun v hv => by rw [row_rowsOf m v hv])

theorem sorted_of_csr_valid {m : Coupe.Metrics.Csr} (hv : m.Valid) : SortedRows (rowsOf m) := by
  intro v hv'
  rw [rowsOf_length] at hv'
  rw [row_rowsOf m v hv']
  exact Coupe.Metrics.Csr.row_sorted hv v hv'

/-- C07's cap (`Fm.capOf`) written with `Coupe.load`: the parameter when `max_imbalance` is
given, else the heavier input part. -/
def fmCap (capOpt : Option Int) (ws : List Int) (p : List Nat) : Int :=
  match capOpt with
  | some c => c
  | none => max (Coupe.load ws p 0) (Coupe.load ws p 1)

instance (g : Graph) : Decidable (Coupe.ArcSwap.Sym g) := by
  unfold Coupe.ArcSwap.Sym; infer_instance

end Coupe.Bridge
