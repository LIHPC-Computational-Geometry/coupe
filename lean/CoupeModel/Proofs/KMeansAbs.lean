import CoupeModel.Model.KMeansAbs
import Mathlib.Data.List.Perm.Subperm

/-!
Lemmas about the abstract KMeans model (`Model/KMeansAbs.lean`) used by `Props/C02.lean`.
-/

namespace Coupe.KMeansAbs

/-- The input is a valid partition: every id from 0 to the maximum is used. -/
def Valid (ids : List Nat) : Prop := ∀ i, i ≤ maxId ids → i ∈ ids

theorem mem_uniqueAux {x : Nat} {l seen : List Nat} :
    x ∈ uniqueAux seen l ↔ x ∈ l ∧ x ∉ seen := by
  fun_induction uniqueAux seen l with
  | case1 => simp
  | case2 seen y ys hy ih =>
    have hy' : y ∈ seen := by simpa using hy
    rw [ih, List.mem_cons]
    exact ⟨fun ⟨h1, h2⟩ => ⟨.inr h1, h2⟩,
      fun ⟨h1, h2⟩ => ⟨h1.resolve_left (fun e => h2 (e ▸ hy')), h2⟩⟩
  | case3 seen y ys hy ih =>
    have hy' : y ∉ seen := by simpa using hy
    rw [List.mem_cons, ih, List.mem_cons, List.mem_cons, not_or]
    by_cases hxy : x = y
    · simp [hxy, hy']
    · simp [hxy]

theorem nodup_uniqueAux (l seen : List Nat) : (uniqueAux seen l).Nodup := by
  fun_induction uniqueAux seen l with
  | case1 => exact List.nodup_nil
  | case2 seen y ys hy ih => exact ih
  | case3 seen y ys hy ih =>
    exact List.nodup_cons.2 ⟨fun h => (mem_uniqueAux.1 h).2 List.mem_cons_self, ih⟩

theorem mem_centerIds (x : Nat) (ids : List Nat) : x ∈ centerIds ids ↔ x ∈ ids := by
  simp [centerIds, mem_uniqueAux]

theorem nodup_centerIds (ids : List Nat) : (centerIds ids).Nodup := nodup_uniqueAux ids []

theorem le_foldl_max {x a : Nat} {l : List Nat} (h : x ≤ a ∨ x ∈ l) : x ≤ l.foldl max a := by
  induction l generalizing a with
  | nil => simpa using h
  | cons y ys ih =>
    refine ih ?_
    rcases h with h | h
    · exact .inl (Nat.le_trans h (Nat.le_max_left a y))
    · exact (List.mem_cons.1 h).imp (fun e : x = y => e ▸ Nat.le_max_right a x) id

theorem le_maxId {x : Nat} {ids : List Nat} (h : x ∈ ids) : x ≤ maxId ids :=
  le_foldl_max (.inr h)

theorem centerIds_subperm_range (ids : List Nat) :
    (centerIds ids).Subperm (List.range (maxId ids + 1)) :=
  List.subperm_of_subset (nodup_centerIds ids) fun x hx =>
    List.mem_range.2 (Nat.lt_succ_of_le (le_maxId ((mem_centerIds x ids).1 hx)))

/-- `center_ids` has no repetition and lies in `0 ..= max`: it has `max + 1` entries exactly
when it is all of `0 ..= max`. -/
theorem valid_iff_length_centerIds (ids : List Nat) :
    Valid ids ↔ (centerIds ids).length = maxId ids + 1 := by
  have hsub := centerIds_subperm_range ids
  constructor
  · intro h
    have hsub' : (List.range (maxId ids + 1)).Subperm (centerIds ids) :=
      List.subperm_of_subset List.nodup_range fun x hx =>
        (mem_centerIds x ids).2 (h x (Nat.le_of_lt_succ (List.mem_range.1 hx)))
    simpa using Nat.le_antisymm hsub.length_le hsub'.length_le
  · intro h i hi
    have hp := hsub.perm_of_length_le (by simp [h])
    exact (mem_centerIds i ids).1 (hp.mem_iff.2 (List.mem_range.2 (Nat.lt_succ_of_le hi)))

theorem validB_iff (ids : List Nat) : validB ids = true ↔ Valid ids := by
  simp [validB, Valid, Nat.lt_succ_iff]

theorem length_sweep (b : Nat → Option Nat) (asg : List Nat) :
    (sweep b asg).length = asg.length := by
  simp [sweep]

theorem getElem_sweep (b : Nat → Option Nat) (asg : List Nat) (p : Nat)
    (hp : p < (sweep b asg).length) :
    (sweep b asg)[p] = (b p).getD (asg[p]'(by simpa [length_sweep] using hp)) := by
  simp [sweep]

theorem mem_sweep {b : Nat → Option Nat} {asg : List Nat} {x : Nat} (hx : x ∈ sweep b asg) :
    x ∈ asg ∨ ∃ p, b p = some x := by
  obtain ⟨p, hp, rfl⟩ := List.getElem_of_mem hx
  rw [getElem_sweep]
  cases hb : b p with
  | none => left; simp
  | some c => right; exact ⟨p, by simp [hb]⟩

theorem emptied_sweep_head {cids : List Nat} (hnd : cids.Nodup) (h2 : 2 ≤ cids.length)
    (asg : List Nat) : emptied cids (sweep (fun _ => cids.head?) asg) = true := by
  match cids, h2, hnd with
  | a :: b :: t, _, hnd =>
    have hab : b ≠ a := fun e => (List.nodup_cons.1 hnd).1 (e ▸ List.mem_cons_self)
    have hnb : b ∉ sweep (fun _ => some a) asg := fun hb => by
      obtain ⟨p, hp, e⟩ := List.getElem_of_mem hb
      rw [getElem_sweep] at e
      exact hab e.symm
    exact List.any_eq_true.2 ⟨b, List.mem_cons_of_mem _ List.mem_cons_self, by simpa using hnb⟩

theorem sweeps_ok {cfg : Cfg} {cids : List Nat} :
    ∀ (bs : List (Nat → Option Nat)) (asg out : List Nat),
      (∀ b ∈ bs, ∀ p c, b p = some c → c ∈ cids) →
      sweeps cfg cids bs asg = .ok out →
      out.length = asg.length ∧ ((∀ x ∈ asg, x ∈ cids) → ∀ x ∈ out, x ∈ cids)
  | [], asg, out, _, h => by
    cases h
    exact ⟨rfl, fun h => h⟩
  | b :: bs, asg, out, hb, h => by
    rw [List.forall_mem_cons] at hb
    simp only [sweeps] at h
    split at h
    · cases h
    · obtain ⟨h1, h2⟩ := sweeps_ok bs (sweep b asg) out hb.2 h
      refine ⟨by rw [h1, length_sweep], fun hasg => h2 fun x hx => ?_⟩
      rcases mem_sweep hx with h | ⟨p, hp⟩
      · exact hasg x h
      · exact hb.1 p x hp

theorem sweeps_total {cfg : Cfg} (hc : cfg.oldPanicOnEmpty = false) (cids : List Nat) :
    ∀ (bs : List (Nat → Option Nat)) (asg : List Nat), ∃ out, sweeps cfg cids bs asg = .ok out
  | [], asg => ⟨asg, rfl⟩
  | b :: bs, asg => by
    simp only [sweeps, hc, Bool.false_and, Bool.false_eq_true, if_false]
    exact sweeps_total hc cids bs (sweep b asg)

theorem sweeps_ne_unsound (cfg : Cfg) (cids : List Nat) :
    ∀ (bs : List (Nat → Option Nat)) (asg : List Nat), sweeps cfg cids bs asg ≠ .panicUnsound
  | [], asg => by simp [sweeps]
  | b :: bs, asg => by
    simp only [sweeps]
    split
    · simp
    · exact sweeps_ne_unsound cfg cids bs _

theorem best_map_mem {cids : List Nat} (bs : List (Best cids)) :
    ∀ b ∈ bs.map (·.f), ∀ p c, b p = some c → c ∈ cids := by
  intro b hb p c h
  obtain ⟨B, _, rfl⟩ := List.mem_map.1 hb
  exact B.mem p c h

theorem run_of_maxId_zero (cfg : Cfg) {ids : List Nat} (bs : List (Best (centerIds ids)))
    (h : maxId ids = 0) : run cfg ids bs = .ok ids := by
  simp [run, h]

theorem run_of_not_valid (cfg : Cfg) {ids : List Nat} (bs : List (Best (centerIds ids)))
    (h1 : 1 ≤ maxId ids) (hv : ¬ Valid ids) : run cfg ids bs = .panicUnsound := by
  rw [valid_iff_length_centerIds] at hv
  rw [run, if_neg (by omega), if_pos (by omega)]

theorem run_of_valid (cfg : Cfg) {ids : List Nat} (bs : List (Best (centerIds ids)))
    (h1 : 1 ≤ maxId ids) (hv : Valid ids) :
    run cfg ids bs = sweeps cfg (centerIds ids) (bs.map (·.f)) ids := by
  rw [valid_iff_length_centerIds] at hv
  rw [run, if_neg (by omega), if_neg (by omega)]

theorem run_ok {cfg : Cfg} {ids out : List Nat} {bs : List (Best (centerIds ids))}
    (h : run cfg ids bs = .ok out) : out.length = ids.length ∧ ∀ x ∈ out, x ∈ centerIds ids := by
  by_cases h1 : 1 ≤ maxId ids
  · by_cases hv : Valid ids
    · rw [run_of_valid cfg bs h1 hv] at h
      obtain ⟨hl, hm⟩ := sweeps_ok _ ids out (best_map_mem bs) h
      exact ⟨hl, hm fun x hx => (mem_centerIds x ids).2 hx⟩
    · rw [run_of_not_valid cfg bs h1 hv] at h
      cases h
  · rw [run_of_maxId_zero cfg bs (by omega)] at h
    cases h
    exact ⟨rfl, fun x hx => (mem_centerIds x ids).2 hx⟩

theorem legalStep_iff {cids before after : List Nat} :
    legalStep cids before after = true ↔ after.length = before.length ∧
      ∀ p (hb : p < before.length) (ha : p < after.length),
        after[p] = before[p] ∨ after[p] ∈ cids := by
  simp only [legalStep, Bool.and_eq_true, beq_iff_eq, List.all_eq_true, Bool.or_eq_true,
    List.contains_iff_mem, List.forall_mem_iff_forall_getElem, List.length_zip, List.getElem_zip]
  exact and_congr_right fun hlen =>
    ⟨fun h p hb ha => h p (by omega), fun h p hp => h p (by omega) (by omega)⟩

theorem sweep_bestOf {cids before after : List Nat} (h : legalStep cids before after = true) :
    sweep (bestOf cids after).f before = after := by
  obtain ⟨hlen, hall⟩ := legalStep_iff.1 h
  apply List.ext_getElem (by rw [length_sweep, hlen])
  intro p h1 h2
  rw [getElem_sweep]
  simp only [bestOf, List.getElem?_eq_getElem h2, List.contains_iff_mem]
  split
  · rfl
  · next hc => exact ((hall p (hlen ▸ h2) h2).resolve_right hc).symm

theorem legalStep_of_sweep {cids : List Nat} (b : Best cids) (before : List Nat) :
    legalStep cids before (sweep b.f before) = true := by
  refine legalStep_iff.2 ⟨length_sweep _ _, fun p hb ha => ?_⟩
  rw [getElem_sweep]
  cases hb : b.f p with
  | none => exact .inl rfl
  | some c => exact .inr (b.mem p c hb)

end Coupe.KMeansAbs
