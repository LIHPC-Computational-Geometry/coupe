import CoupeModel.Model.Kl

/-!
Lemmas for C15 (Kernighan-Lin).

The rewind loops of the code replay saved swaps in forward order.  That undoes them, because
swaps of disjoint index pairs commute and each is an involution (`applySwaps_invol`), and the
saved pairs are pairwise disjoint: every saved index is locked and a candidate is unlocked.  `Inv`
keeps these books for one pass, together with `cut_saves[t]` being the cut after `t + 1` swaps.
-/

namespace Coupe.Kl

@[simp] theorem length_swap (p : List Nat) (i j : Nat) : (swap p i j).length = p.length := by
  rw [swap, List.length_set, List.length_set]

theorem getD_swap_of_ne (p : List Nat) {i j n : Nat} (hi : i ≠ n) (hj : j ≠ n) :
    (swap p i j).getD n 0 = p.getD n 0 := by
  simp only [swap, List.getD_eq_getElem?_getD, List.getElem?_set_ne hj, List.getElem?_set_ne hi]

theorem swap_perm (p : List Nat) (i j : Nat) (hi : i < p.length) (hj : j < p.length) :
    (swap p i j).Perm p := by
  rw [List.perm_iff_count]
  intro a
  -- whether `i = j` or not, the second write replaces `p[j]`
  have hij : (p.set i p[j])[j]'(by rw [List.length_set]; exact hj) = p[j] := by
    rw [List.getElem_set]; split <;> rfl
  simp only [swap, List.getD_eq_getElem?_getD, List.getElem?_eq_getElem hi,
    List.getElem?_eq_getElem hj, Option.getD_some]
  rw [List.count_set (by rw [List.length_set]; exact hj), List.count_set hi, hij]
  have : (if (p[i] == a) = true then 1 else 0) ≤ p.count a := by
    split
    · next h => exact List.count_pos_iff.2 (beq_iff_eq.1 h ▸ List.getElem_mem hi)
    · exact Nat.zero_le _
  omega

theorem swap_swap (p : List Nat) (i j : Nat) (hi : i < p.length) (hj : j < p.length) :
    swap (swap p i j) i j = p := by
  apply List.ext_getElem?
  intro n
  simp only [swap, List.getD_eq_getElem?_getD, List.getElem?_set, List.length_set,
    List.getElem?_eq_getElem hi, List.getElem?_eq_getElem hj, if_pos hi, if_pos hj, ite_true,
    Option.getD_some]
  grind

theorem swap_comm_disj (p : List Nat) (a b c d : Nat)
    (h1 : a ≠ c) (h2 : a ≠ d) (h3 : b ≠ c) (h4 : b ≠ d) :
    swap (swap p a b) c d = swap (swap p c d) a b := by
  rw [swap, getD_swap_of_ne p h2 h4, getD_swap_of_ne p h1 h3, swap, swap,
    getD_swap_of_ne p h3.symm h4.symm, getD_swap_of_ne p h1.symm h2.symm, swap]
  -- four writes to distinct cells, in two orders
  rw [List.set_comm _ _ h3, List.set_comm _ _ h1, List.set_comm _ _ h4, List.set_comm _ _ h2]

def Disj (x y : Nat × Nat) : Prop := x.1 ≠ y.1 ∧ x.1 ≠ y.2 ∧ x.2 ≠ y.1 ∧ x.2 ≠ y.2

@[simp] theorem applySwaps_nil (p : List Nat) : applySwaps [] p = p := rfl
@[simp] theorem applySwaps_cons (x : Nat × Nat) (l : List (Nat × Nat)) (p : List Nat) :
    applySwaps (x :: l) p = applySwaps l (swap p x.1 x.2) := rfl

theorem applySwaps_append (l1 l2 : List (Nat × Nat)) (p : List Nat) :
    applySwaps (l1 ++ l2) p = applySwaps l2 (applySwaps l1 p) := by
  simp [applySwaps, List.foldl_append]

@[simp] theorem length_applySwaps (l : List (Nat × Nat)) (p : List Nat) :
    (applySwaps l p).length = p.length := by
  induction l generalizing p with
  | nil => rfl
  | cons x l ih => simp [ih]

theorem applySwaps_perm (l : List (Nat × Nat)) (p : List Nat)
    (h : ∀ x ∈ l, x.1 < p.length ∧ x.2 < p.length) : (applySwaps l p).Perm p := by
  induction l generalizing p with
  | nil => exact List.Perm.refl _
  | cons x l ih =>
    have hx := h x (by simp)
    refine (ih (swap p x.1 x.2) ?_).trans (swap_perm p x.1 x.2 hx.1 hx.2)
    intro y hy
    simpa using h y (by simp [hy])

theorem swap_applySwaps_comm (l : List (Nat × Nat)) (p : List Nat) (x : Nat × Nat)
    (h : ∀ y ∈ l, Disj x y) :
    swap (applySwaps l p) x.1 x.2 = applySwaps l (swap p x.1 x.2) := by
  induction l generalizing p with
  | nil => rfl
  | cons y l ih =>
    have hy := h y (by simp)
    simp only [applySwaps_cons]
    rw [ih _ (fun z hz => h z (by simp [hz]))]
    rw [swap_comm_disj p y.1 y.2 x.1 x.2 (Ne.symm hy.1) (Ne.symm hy.2.2.1) (Ne.symm hy.2.1) (Ne.symm hy.2.2.2)]

theorem applySwaps_invol (l : List (Nat × Nat)) (p : List Nat)
    (hd : l.Pairwise Disj) (hr : ∀ x ∈ l, x.1 < p.length ∧ x.2 < p.length) :
    applySwaps l (applySwaps l p) = p := by
  induction l generalizing p with
  | nil => rfl
  | cons x l ih =>
    rw [List.pairwise_cons] at hd
    have hx := hr x (by simp)
    simp only [applySwaps_cons]
    rw [swap_applySwaps_comm l _ x hd.1, swap_swap p x.1 x.2 hx.1 hx.2]
    exact ih p hd.2 (fun y hy => hr y (by simp [hy]))

theorem argmaxLast_mem (gains : List Int) (cs : List Nat) (i : Nat) (gi : Int)
    (h : argmaxLast gains cs = some (i, gi)) : i ∈ cs := by
  cases cs with
  | nil => cases h
  | cons c cs =>
    have key := List.foldlRecOn cs
      (fun b k => if b.2 ≤ gains.getD k 0 then (k, gains.getD k 0) else b)
      (b := (c, gains.getD c 0)) (motive := fun b => b.1 ∈ c :: cs) List.mem_cons_self
      (fun b hb k hk => by split; exact List.mem_cons_of_mem _ hk; exact hb)
    rw [Option.some.inj h] at key
    exact key

theorem argminFirst_spec (cs : List Int) (b : Nat) (c : Int)
    (h : argminFirst cs = some (b, c)) : cs[b]? = some c := by
  cases cs with
  | nil => cases h
  | cons c0 cs =>
    have key := List.foldlRecOn (cs.zipIdx 1) (fun b x => if x.1 < b.2 then (x.2, x.1) else b)
      (b := (0, c0)) (motive := fun b => (c0 :: cs)[b.1]? = some b.2) rfl
      (fun b hb x hx => by
        split
        · obtain ⟨v, k⟩ := x
          obtain ⟨h1, h2⟩ := List.mem_zipIdx_iff_le_and_getElem?_sub.1 hx
          cases k with
          | zero => cases h1
          | succ m => exact h2
        · exact hb)
    rw [Option.some.inj h] at key
    exact key

theorem mem_cands {p : List Nat} {locks : List Bool} {wlen a i : Nat}
    (h : i ∈ cands p locks wlen a) :
    i < p.length ∧ p.getD i 0 = a ∧ locks.getD i true = false := by
  simp only [cands, List.mem_filter, List.mem_range, Bool.and_eq_true, decide_eq_true_eq,
    beq_iff_eq, Bool.not_eq_true'] at h
  exact ⟨h.1, h.2.1.2, h.2.2⟩

theorem lock_set_keep (l : List Bool) (i x : Nat) (h : l.getD x true = true) :
    (l.set i true).getD x true = true := by
  rw [List.getD_eq_getElem?_getD, List.getElem?_set]
  split
  · split <;> rfl
  · rwa [List.getD_eq_getElem?_getD] at h

theorem lock_set_self (l : List Bool) (i : Nat) : (l.set i true).getD i true = true := by
  rw [List.getD_eq_getElem?_getD, List.getElem?_set, if_pos rfl]
  split <;> rfl

theorem ne_of_locked {l : List Bool} {x i : Nat} (hx : l.getD x true = true)
    (hi : l.getD i true = false) : x ≠ i :=
  fun h => Bool.noConfusion ((h ▸ hx).symm.trans hi)

structure Inv (g : Graph) (p0 : List Nat) (s : St) : Prop where
  hp : s.p = applySwaps s.saves p0
  hlen : s.cuts.length = s.saves.length
  hcut : ∀ t, t < s.saves.length →
    s.cuts[t]? = some (edgeCut g (applySwaps (s.saves.take (t + 1)) p0))
  hrange : ∀ x ∈ s.saves, x.1 < p0.length ∧ x.2 < p0.length
  hlock : ∀ x ∈ s.saves, s.locks.getD x.1 true = true ∧ s.locks.getD x.2 true = true
  hdisj : s.saves.Pairwise Disj

theorem Inv.init (g : Graph) (p0 : List Nat) (gains : List Int) (locks : List Bool) :
    Inv g p0 { p := p0, gains := gains, locks := locks, saves := [], cuts := [] } :=
  ⟨rfl, rfl, by simp, by simp, by simp, List.Pairwise.nil⟩

theorem Inv.step {g : Graph} {p0 : List Nat} {s : St} (h : Inv g p0 s) {wlen a b i j : Nat}
    (gains : List Int)
    (hi : i ∈ cands s.p s.locks wlen a) (hj : j ∈ cands s.p s.locks wlen b) :
    Inv g p0 { p := swap s.p i j, gains := gains, locks := (s.locks.set i true).set j true,
               saves := s.saves ++ [(i, j)], cuts := s.cuts ++ [edgeCut g (swap s.p i j)] } := by
  obtain ⟨hil, -, hiu⟩ := mem_cands hi
  obtain ⟨hjl, -, hju⟩ := mem_cands hj
  have hpl : s.p.length = p0.length := by rw [h.hp]; simp
  have hnew : swap s.p i j = applySwaps (s.saves ++ [(i, j)]) p0 := by
    rw [applySwaps_append, ← h.hp]; rfl
  refine ⟨hnew, by simp [h.hlen], ?_, ?_, ?_, ?_⟩
  · intro t ht
    simp only [List.length_append, List.length_singleton] at ht
    by_cases hlt : t < s.saves.length
    · rw [List.getElem?_append_left (by rw [h.hlen]; exact hlt),
        List.take_append_of_le_length (by omega)]
      exact h.hcut t hlt
    · have ht' : t = s.saves.length := by omega
      subst ht'
      rw [← h.hlen, List.getElem?_append_right (Nat.le_refl _)]
      simp only [Nat.sub_self, List.getElem?_cons_zero]
      rw [h.hlen, List.take_of_length_le (by simp), hnew]
  · intro x hx
    rcases List.mem_append.1 hx with hx | hx
    · exact h.hrange x hx
    · simp only [List.mem_singleton] at hx; subst hx; exact ⟨hpl ▸ hil, hpl ▸ hjl⟩
  · intro x hx
    rcases List.mem_append.1 hx with hx | hx
    · exact ⟨lock_set_keep _ _ _ (lock_set_keep _ _ _ (h.hlock x hx).1),
        lock_set_keep _ _ _ (lock_set_keep _ _ _ (h.hlock x hx).2)⟩
    · simp only [List.mem_singleton] at hx; subst hx
      exact ⟨lock_set_keep _ _ _ (lock_set_self _ _), lock_set_self _ _⟩
  · rw [List.pairwise_append]
    refine ⟨h.hdisj, List.pairwise_singleton _ _, ?_⟩
    intro x hx y hy
    rw [List.mem_singleton.1 hy]
    obtain ⟨h1, h2⟩ := h.hlock x hx
    exact ⟨ne_of_locked h1 hiu, ne_of_locked h1 hju, ne_of_locked h2 hiu, ne_of_locked h2 hju⟩

theorem Inv.rewind {g : Graph} {p0 : List Nat} {s : St} (h : Inv g p0 s) (t : Nat) :
    applySwaps (s.saves.drop t) s.p = applySwaps (s.saves.take t) p0 := by
  have hp : s.p = applySwaps (s.saves.drop t) (applySwaps (s.saves.take t) p0) := by
    rw [← applySwaps_append, List.take_append_drop]; exact h.hp
  rw [hp]
  exact applySwaps_invol _ _ (h.hdisj.sublist (List.drop_sublist _ _))
    fun x hx => by rw [length_applySwaps]; exact h.hrange x (List.mem_of_mem_drop hx)

theorem Inv.undo {g : Graph} {p0 : List Nat} {s : St} (h : Inv g p0 s) (t : Nat) :
    applySwaps (s.saves.take t) (applySwaps (s.saves.take t) p0) = p0 :=
  applySwaps_invol _ _ (h.hdisj.sublist (List.take_sublist _ _))
    fun x hx => h.hrange x (List.mem_of_mem_take hx)

theorem flips_inv (cfg : Cfg) (g : Graph) (wlen a b mb : Nat) (p0 : List Nat) :
    ∀ (k : Nat) (s s' : St), flips cfg g wlen a b mb k s = .ok s' → Inv g p0 s → Inv g p0 s' := by
  intro k
  induction k with
  | zero => intro s s' h hinv; cases h; exact hinv
  | succ k ih =>
    intro s s' h hinv
    simp only [flips] at h
    split at h
    · cases h
    · split at h
      · split at h
        · cases h
        · cases h; exact hinv
      · next i gi hi =>
        split at h
        · split at h
          · cases h
          · cases h; exact hinv
        · next j gj hj =>
          split at h
          · cases h; exact hinv
          · exact ih _ _ h (hinv.step _ (argmaxLast_mem _ _ _ _ hi) (argmaxLast_mem _ _ _ _ hj))

theorem pass_spec (g : Graph) (wlen a b mb : Nat) (mf : Option Nat) (p : List Nat) (cut : Int)
    (r : PassRes) (h : pass {} g wlen a b mb mf p cut = .ok r) (hc : cut = edgeCut g p) :
    r.p.Perm p ∧ r.cut = edgeCut g r.p ∧ r.cut ≤ cut ∧ (r.again = true → r.cut < cut) := by
  rw [pass] at h
  split at h
  · cases h
  · next s hs =>
    have hinv := flips_inv {} g wlen a b mb p _ _ _ hs (Inv.init g p _ _)
    split at h
    · next hnone =>
      -- no swap was made
      have hsv : s.saves = [] := by
        apply List.eq_nil_of_length_eq_zero
        rw [← hinv.hlen]
        cases hcs : s.cuts with
        | nil => rfl
        | cons c cs => rw [hcs] at hnone; cases hnone
      have hp : s.p = p := by rw [hinv.hp, hsv]; rfl
      cases h
      exact ⟨hp ▸ List.Perm.refl _, hp ▸ hc, Int.le_refl _, nofun⟩
    · next best bestCut hbest =>
      -- the rewind lands on the partition whose cut was recorded as `bestCut`
      have hspec := argminFirst_spec _ _ _ hbest
      have hlt : best < s.saves.length :=
        hinv.hlen ▸ (List.getElem?_eq_some_iff.1 hspec).1
      have hcut1 : bestCut = edgeCut g (applySwaps (s.saves.take (best + 1)) p) :=
        Option.some.inj (hspec.symm.trans (hinv.hcut best hlt))
      rw [hinv.rewind] at h
      split at h
      · cases h
        rw [hinv.undo]
        exact ⟨List.Perm.refl _, hc, Int.le_refl _, nofun⟩
      · next hlt' =>
        cases h
        exact ⟨applySwaps_perm _ _ fun x hx => hinv.hrange x (List.mem_of_mem_take hx), hcut1,
          Int.le_of_lt (Int.not_le.1 hlt'), fun _ => Int.not_le.1 hlt'⟩

theorem passes_spec (g : Graph) (wlen a b mb : Nat) (mp mf : Option Nat) :
    ∀ (fuel iter : Nat) (p : List Nat) (cut : Int) (out : List Nat),
      passes {} g wlen a b mb mp mf fuel iter p cut = .ok out → cut = edgeCut g p →
      out.Perm p ∧ edgeCut g out ≤ edgeCut g p := by
  intro fuel
  induction fuel with
  | zero => intro iter p cut out h; simp [passes] at h
  | succ fuel ih =>
    intro iter p cut out h hc
    by_cases hstop : passLimit mp iter = true
    · simp only [passes, hstop, if_true, Outcome.ok.injEq] at h
      subst h; exact ⟨List.Perm.refl _, Int.le_refl _⟩
    · have hstop' : passLimit mp iter = false := by simpa using hstop
      simp only [passes, hstop', Bool.false_eq_true, if_false] at h
      split at h
      · simp at h
      · next r hr =>
        obtain ⟨hperm, hrc, hle, -⟩ := pass_spec g wlen a b mb mf p cut r hr hc
        split at h
        · obtain ⟨h1, h2⟩ := ih _ _ _ _ h hrc
          exact ⟨h1.trans hperm, by omega⟩
        · simp only [Outcome.ok.injEq] at h; subst h
          exact ⟨hperm, by omega⟩

theorem run_spec (g : Graph) (wlen : Nat) (mp mf : Option Nat) (mb : Nat) (p out : List Nat)
    (h : run {} g wlen mp mf mb p = .ok out) : out.Perm p ∧ edgeCut g out ≤ edgeCut g p := by
  rw [run] at h
  split at h
  · split at h
    · cases h
    · exact passes_spec g wlen _ _ mb mp mf _ _ _ _ _ h rfl
  · cases h

/-- Well-formed CSR adjacency on `n` vertices: one row per vertex, every stored
column index is a vertex.  (No symmetry, sortedness or sign condition.) -/
def WF (g : Graph) (n : Nat) : Prop := g.length = n ∧ ∀ row ∈ g, ∀ e ∈ row, e.1 < n

theorem rowsCheck_of_wf {g : Graph} {n : Nat} (h : WF g n) : rowsCheck g n = none := by
  simp only [rowsCheck, List.findSome?_eq_none_iff, List.mem_range]
  intro i hi
  have hil : i < g.length := h.1 ▸ hi
  rw [List.getElem?_eq_getElem hil]
  simp only
  rw [if_neg]
  simp only [List.any_eq_true, decide_eq_true_eq, not_exists, not_and, Nat.not_le]
  intro e he
  exact h.2 _ (List.getElem_mem hil) e he

theorem flips_ok (g : Graph) (wlen a b mb : Nat) :
    ∀ (k : Nat) (s : St), rowsCheck g s.p.length = none →
      ∃ s', flips {} g wlen a b mb k s = .ok s' := by
  intro k
  induction k with
  | zero => intro s _; exact ⟨s, rfl⟩
  | succ k ih =>
    intro s hs
    simp only [flips, hs]
    split
    · exact ⟨s, rfl⟩
    · split
      · exact ⟨s, rfl⟩
      · split
        · exact ⟨s, rfl⟩
        · exact ih _ (by simpa using hs)

theorem pass_ok (g : Graph) (wlen a b mb : Nat) (mf : Option Nat) (p : List Nat) (cut : Int)
    (hwf : WF g p.length) : ∃ r, pass {} g wlen a b mb mf p cut = .ok r := by
  obtain ⟨s, hs⟩ := flips_ok g wlen a b mb (flipBound p.length mf)
    { p := p, gains := List.replicate p.length 0, locks := List.replicate p.length false,
      saves := [], cuts := [] } (rowsCheck_of_wf hwf)
  simp only [pass, hs]
  split
  · exact ⟨_, rfl⟩
  · split
    · exact ⟨_, rfl⟩
    · exact ⟨_, rfl⟩

theorem sum_sublist_ge (l l' : List (Nat × Int)) (h : l'.Sublist l) :
    -(((l.map (fun e => e.2.natAbs)).sum : Nat) : Int) ≤ (l'.map (·.2)).sum := by
  induction h with
  | slnil => simp
  | cons x _ ih => simp only [List.map_cons, List.sum_cons]; omega
  | cons_cons x _ ih => simp only [List.map_cons, List.sum_cons]; omega

theorem rowCut_ge (p : List Nat) (v : Nat) (row : List (Nat × Int)) :
    -(((row.map (fun e => e.2.natAbs)).sum : Nat) : Int) ≤ rowCut p v row :=
  sum_sublist_ge _ _ (List.filter_sublist.trans (List.takeWhile_sublist _))

theorem edgeCut_ge (g : Graph) (p : List Nat) : -(absSum g : Int) ≤ edgeCut g p := by
  unfold edgeCut absSum
  suffices h : ∀ k, -(((g.map (fun row => (row.map (fun e => e.2.natAbs)).sum)).sum : Nat) : Int) ≤
      ((g.zipIdx k).map (fun x => rowCut p x.2 x.1)).sum from h 0
  induction g with
  | nil => intro k; simp
  | cons row g ih =>
    intro k
    simp only [List.map_cons, List.sum_cons, List.zipIdx_cons]
    have h1 := rowCut_ge p k row
    have h2 := ih (k + 1)
    omega

theorem passes_ok (g : Graph) (wlen a b mb : Nat) (mp mf : Option Nat) :
    ∀ (fuel iter : Nat) (p : List Nat) (cut : Int), WF g p.length → cut = edgeCut g p →
      (cut + absSum g).toNat < fuel →
      ∃ out, passes {} g wlen a b mb mp mf fuel iter p cut = .ok out := by
  intro fuel
  induction fuel with
  | zero => intro iter p cut _ _ h; omega
  | succ fuel ih =>
    intro iter p cut hwf hc hf
    by_cases hstop : passLimit mp iter = true
    · exact ⟨p, by simp only [passes, hstop, if_true]⟩
    · have hstop' : passLimit mp iter = false := by simpa using hstop
      obtain ⟨r, hr⟩ := pass_ok g wlen a b mb mf p cut hwf
      obtain ⟨hperm, hrc, -, hlt⟩ := pass_spec g wlen a b mb mf p cut r hr hc
      simp only [passes, hstop', Bool.false_eq_true, if_false, hr]
      split
      · next hag =>
        have h1 := hlt hag
        have h2 := edgeCut_ge g r.p
        have h3 := edgeCut_ge g p
        refine ih _ _ _ (by rw [hperm.length_eq]; exact hwf) hrc ?_
        omega
      · exact ⟨_, rfl⟩

theorem uniqueAux_mem (seen l : List Nat) (x : Nat) :
    x ∈ uniqueAux seen l ↔ x ∈ l ∧ x ∉ seen := by
  induction l generalizing seen with
  | nil => simp [uniqueAux]
  | cons y l ih =>
    rw [uniqueAux]
    by_cases hxy : x = y
    · subst hxy
      split
      · next hc => simp [ih, List.contains_iff_mem.1 hc]
      · next hc => simpa using hc
    · split <;> simp [ih, hxy]

theorem uniqueAux_nodup (seen l : List Nat) : (uniqueAux seen l).Nodup := by
  induction l generalizing seen with
  | nil => simp [uniqueAux]
  | cons y l ih =>
    simp only [uniqueAux]
    split
    · exact ih _
    · rw [List.nodup_cons]
      refine ⟨?_, ih _⟩
      rw [uniqueAux_mem]
      simp

/-- Two-way partition with both parts non-empty: exactly two distinct labels occur. -/
def TwoWay (p : List Nat) : Prop :=
  ∃ a b, a ≠ b ∧ a ∈ p ∧ b ∈ p ∧ ∀ x ∈ p, x = a ∨ x = b

theorem uniqueIds_two {p : List Nat} (h : TwoWay p) :
    ∃ a b, uniqueIds p = [a, b] ∧ a ≠ b ∧ a ∈ p ∧ b ∈ p := by
  obtain ⟨a, b, hab, ha, hb, hall⟩ := h
  have hmem : ∀ x, x ∈ uniqueIds p ↔ x ∈ p := fun x => by
    rw [uniqueIds, uniqueAux_mem]; exact and_iff_left List.not_mem_nil
  have hnd : (uniqueIds p).Nodup := uniqueAux_nodup [] p
  -- duplicate-free with the members of `[a, b]`, hence of length two
  have hperm : (uniqueIds p).Perm [a, b] :=
    (List.perm_ext_iff_of_nodup hnd (by simp [hab])).2 fun x => by
      rw [hmem, List.mem_cons, List.mem_singleton]
      exact ⟨hall x, fun h => h.elim (· ▸ ha) (· ▸ hb)⟩
  generalize uniqueIds p = u at hmem hnd hperm
  rcases u with _ | ⟨x, _ | ⟨y, _ | _⟩⟩
  · cases hperm.length_eq
  · cases hperm.length_eq
  · exact ⟨x, y, rfl, fun e => (List.nodup_cons.1 hnd).1 (e ▸ List.mem_cons_self),
      (hmem x).1 List.mem_cons_self, (hmem y).1 (List.mem_cons_of_mem _ List.mem_cons_self)⟩
  · cases hperm.length_eq

end Coupe.Kl
