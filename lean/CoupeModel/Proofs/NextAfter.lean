import CoupeModel.Model.NextAfter

/-!
# Lemmas about `Model/NextAfter.lean` (nextafter on bit patterns)

The boolean comparisons are rewritten to their propositional content (`feq_iff`, …) and
`rank` to an `if` on the sign bit (`rank_def`); `fcmp` then unfolds `mag` and leaves linear
arithmetic on the patterns to `omega`.  The step `to_bits() ± 1` is instead read in sign and
magnitude (`mag_move`: the magnitude moves by one, the sign stays), so that `bits_step` and
`move_one` are arithmetic on `mag b` alone.  Core tactics only.
-/

namespace Coupe.NextAfter

theorem rank_def (b : Nat) :
    rank b = if 0x8000000000000000 ≤ b then -(mag b : Int) else (mag b : Int) := by
  simp [rank, isNeg]

theorem isNan_iff (b : Nat) : isNan b = true ↔ 0x7ff0000000000000 < mag b := by
  unfold isNan; exact decide_eq_true_iff
theorem isNan_false_iff (b : Nat) : isNan b = false ↔ mag b ≤ 0x7ff0000000000000 := by
  unfold isNan; rw [decide_eq_false_iff_not]; omega
theorem isNeg_iff (b : Nat) : isNeg b = true ↔ 0x8000000000000000 ≤ b := by
  unfold isNeg; exact decide_eq_true_iff
theorem isNeg_false_iff (b : Nat) : isNeg b = false ↔ b < 0x8000000000000000 := by
  unfold isNeg; rw [decide_eq_false_iff_not]; omega
theorem isZero_iff (b : Nat) : isZero b = true ↔ mag b = 0 := by
  unfold isZero; exact decide_eq_true_iff
theorem isZero_false_iff (b : Nat) : isZero b = false ↔ mag b ≠ 0 := by
  unfold isZero; rw [decide_eq_false_iff_not]
theorem isFinite_iff (b : Nat) : isFinite b = true ↔ mag b < 0x7ff0000000000000 := by
  unfold isFinite; exact decide_eq_true_iff
theorem isInf_iff (b : Nat) : isInf b = true ↔ mag b = 0x7ff0000000000000 := by
  unfold isInf; exact decide_eq_true_iff

theorem feq_iff (a b : Nat) : feq a b = true ↔ (isNan a = false ∧ isNan b = false ∧ rank a = rank b) := by
  simp [feq, and_assoc]
theorem flt_iff (a b : Nat) : flt a b = true ↔ (isNan a = false ∧ isNan b = false ∧ rank a < rank b) := by
  simp [flt, and_assoc]
theorem fle_iff (a b : Nat) : fle a b = true ↔ (isNan a = false ∧ isNan b = false ∧ rank a ≤ rank b) := by
  simp [fle, and_assoc]
theorem feq_false_iff (a b : Nat) :
    feq a b = false ↔ ¬ (isNan a = false ∧ isNan b = false ∧ rank a = rank b) := by
  rw [← feq_iff, Bool.not_eq_true]
theorem flt_false_iff (a b : Nat) :
    flt a b = false ↔ ¬ (isNan a = false ∧ isNan b = false ∧ rank a < rank b) := by
  rw [← flt_iff, Bool.not_eq_true]
theorem fle_false_iff (a b : Nat) :
    fle a b = false ↔ ¬ (isNan a = false ∧ isNan b = false ∧ rank a ≤ rank b) := by
  rw [← fle_iff, Bool.not_eq_true]

/-- Rewrite every comparison (goal and hypotheses) to arithmetic on the patterns, then `omega`. -/
macro "fcmp" : tactic => `(tactic| (
  simp only [fge, feq_iff, flt_iff, fle_iff, feq_false_iff, flt_false_iff, fle_false_iff,
    isNan_iff, isNan_false_iff, isNeg_iff, isNeg_false_iff, isZero_iff, isZero_false_iff,
    isFinite_iff, isInf_iff, rank_def, posInf, negInf, posZero, negZero, nanBits, two64, signBit,
    maxFinite, copysign, mag] at *
  omega))

theorem nextafter_same {frm to : Nat} (h : feq frm to = true) : nextafter frm to = to := by
  simp [nextafter, h]

theorem nextafter_zero {frm to : Nat} (hz : frm = posZero ∨ frm = negZero) (hto : isNan to = false)
    (htz : isZero to = false) :
    nextafter frm to = if isNeg to then 0x8000000000000001 else 1 := by
  have e1 : feq frm to = false := by rcases hz with rfl | rfl <;> fcmp
  have e : isNan frm = false ∧ fge frm posInf = false ∧ fle frm negInf = false ∧
      feq frm posZero = true := by rcases hz with rfl | rfl <;> decide
  simp only [nextafter, e1, e, hto, copysign, mag]
  cases isNeg to <;> simp

theorem rank_pos {b : Nat} (h : b < signBit) : rank b = (b : Int) := by fcmp

theorem rank_neg {b : Nat} (h0 : signBit ≤ b) (h1 : b < two64) :
    rank b = (0x8000000000000000 : Int) - (b : Int) := by fcmp

/-- A pattern is its magnitude plus its sign bit: `copysign` with the sign the pattern
already has is the identity. -/
theorem copysign_self {r s : Nat} (hr : r < two64) (h : isNeg r = isNeg s) : copysign r s = r := by
  rw [copysign, ← h]
  simp only [mag, isNeg, two64, decide_eq_true_eq] at *; split <;> omega

/-- Beside a zero, `<` reads off the sign bit: `±0 < b` iff `b` is positive. -/
theorem flt_zero {z b : Nat} (hz : isZero z = true) (hb : isNan b = false) (hnz : isZero b = false) :
    flt z b = !isNeg b := by
  have hm := (isZero_false_iff b).1 hnz
  have hb := (isNan_false_iff b).1 hb
  cases hn : isNeg b <;> simp [flt, isNan, rank, (isZero_iff z).1 hz, hn] <;> omega

/-- A finite non-zero pattern has its magnitude strictly inside `(0, posInf)`: `± 1` stays a
pattern, moves the magnitude and keeps the sign. -/
theorem mag_move {b : Nat} (hb : b < two64) (hfin : isFinite b = true) (hz : isZero b = false) :
    (0 < mag b ∧ mag b < posInf ∧ b + 1 < two64 ∧ 1 ≤ b) ∧
    (mag (b + 1) = mag b + 1 ∧ isNeg (b + 1) = isNeg b) ∧
    (mag (b - 1) = mag b - 1 ∧ isNeg (b - 1) = isNeg b) := by
  simp only [isFinite_iff, isZero_false_iff, mag, isNeg, two64, posInf, decide_eq_decide] at *; omega

/-- In the last branch the `u64` operations `to_bits() + 1` / `to_bits() - 1` neither wrap
nor go below zero, and the result is the pattern moved by one (the final `copysign` is the
identity on it). -/
theorem bits_step {frm to : Nat} (hb : frm < two64) (hfin : isFinite frm = true)
    (hnz : isZero frm = false) (hto : isNan to = false) (hne : feq frm to = false) :
    frm + 1 < two64 ∧ 1 ≤ frm ∧
    nextafter frm to = if flt frm to == flt posZero frm then frm + 1 else frm - 1 := by
  obtain ⟨hfn, e2, e3, e4⟩ : isNan frm = false ∧ fge frm posInf = false ∧ fle frm negInf = false ∧
      feq frm posZero = false := by
    clear hto hne; fcmp
  obtain ⟨hm, ⟨_, p⟩, _, q⟩ := mag_move hb hfin hnz
  refine ⟨hm.2.2.1, hm.2.2.2, ?_⟩
  simp only [nextafter, hne, hfn, hto, e2, e3, e4, Bool.false_eq_true, if_false, Bool.or_false]
  -- `frm ± 1` has the sign of `frm`, so `copysign (frm ± 1) frm` changes nothing
  split <;> exact ite_eq_right_iff.2 fun _ => copysign_self (by omega) ‹_›

/-- Moving a finite non-zero pattern `b` by one, upwards iff `up`: a valid non-NaN pattern of
adjacent rank, and a zero only with the sign of `b`. -/
theorem move_one {b r : Nat} (hb : b < two64) (hfin : isFinite b = true) (hz : isZero b = false)
    (up : Bool) (hr : r = if up == flt posZero b then b + 1 else b - 1) :
    r < two64 ∧ isNan r = false ∧ rank r = rank b + (if up = true then 1 else -1) ∧
    (isZero r = true → isNeg r = isNeg b) := by
  obtain ⟨hm, ⟨p1, p2⟩, q1, q2⟩ := mag_move hb hfin hz
  -- `0 < b` as doubles iff `b` has no sign bit: `b + 1` is away from zero, `b - 1` towards it
  have hdir := flt_zero (z := posZero) rfl ((isNan_false_iff b).2 (Nat.le_of_lt hm.2.1)) hz
  subst hr; rw [hdir]
  cases up <;> cases hn : isNeg b <;>
    simp [rank, isNan_false_iff, p1, p2, q1, q2, hn, two64, posInf] at hm ⊢ <;> omega

theorem nextafter_to_zero {f : Nat} (h0 : 0 < f) (h1 : f < posInf) : nextafter f posZero = f - 1 := by
  obtain ⟨hb, hfin, hz, hne, e, e'⟩ : f < two64 ∧ isFinite f = true ∧ isZero f = false ∧
      feq f posZero = false ∧ flt f posZero = false ∧ flt posZero f = true := by fcmp
  rw [(bits_step hb hfin hz (by decide) hne).2.2, e, e']
  rfl

theorem towardsZero_sub : ∀ (n f : Nat), f < posInf → n ≤ f → towardsZero n f = f - n
  | 0, f, _, _ => by simp [towardsZero]
  | n + 1, f, h1, hn => by
    have h0 : 0 < f := by omega
    rw [towardsZero, nextafter_to_zero h0 h1, towardsZero_sub n (f - 1) (by omega) (by omega)]
    omega

theorem segLoop_terminates (test : Nat → Bool) (h0 : test posZero = false) :
    ∀ (fuel f : Nat), f < posInf → f < fuel →
      ∃ k, k ≤ f ∧ segLoop test fuel f = some (f - k) ∧ test (f - k) = false ∧
        ∀ j, j < k → test (f - j) = true
  | 0, f, _, hfuel => by omega
  | fuel + 1, f, h1, hfuel => by
    by_cases ht : test f = true
    · have hf0 : 0 < f := Nat.pos_of_ne_zero fun h => by subst h; cases h0.symm.trans ht
      obtain ⟨k, hk, hrun, hstop, hbefore⟩ :=
        segLoop_terminates test h0 fuel (f - 1) (by omega) (by omega)
      simp only [Nat.sub_sub, Nat.add_comm 1] at hrun hstop hbefore
      refine ⟨k + 1, by omega, by rw [segLoop, if_pos ht, nextafter_to_zero hf0 h1, hrun], hstop,
        fun j hj => ?_⟩
      cases j with
      | zero => exact ht
      | succ j => exact hbefore j (by omega)
    · exact ⟨0, f.zero_le, by rw [segLoop, if_neg ht]; rfl, by simpa using ht, fun j hj => by omega⟩

theorem segLoop_diverges (test : Nat → Bool) (hinf : test posInf = true) :
    ∀ fuel : Nat, segLoop test fuel posInf = none
  | 0 => rfl
  | fuel + 1 => by
    have : nextafter posInf posZero = posInf := by decide
    rw [segLoop, if_pos hinf, this, segLoop_diverges test hinf fuel]

end Coupe.NextAfter
