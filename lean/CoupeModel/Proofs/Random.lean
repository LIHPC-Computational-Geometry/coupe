import CoupeModel.Model.Random

/-! The loop of `coupe::Random` (`Model/Random.lean`) under a lawful generator; used by
`Props/C01.lean`. -/

namespace Coupe.Random

theorem fill_lawful {σ : Type} (g : Gen σ) (hg : Lawful g) (k : Nat) (hk : 0 < k) :
    ∀ (p : List Nat) (s : σ), ∃ ids, fill g k p s = some ids ∧ ∀ i ∈ ids, i < k
  | [], _ => ⟨[], rfl, by simp⟩
  | _ :: p, s => by
    obtain ⟨v, s', hn, hv⟩ := hg k s hk
    obtain ⟨rest, hrest, hlt⟩ := fill_lawful g hg k hk p s'
    exact ⟨v :: rest, by simp [fill, hn, hrest], List.forall_mem_cons.2 ⟨hv, hlt⟩⟩

end Coupe.Random
