import CoupeModel.Proofs.GridRcbSlabs

/-!
# `Grid::rcb` as a whole: the invariants of `recurse` instantiated

`Q sg total := InGrid sg ∧ total = bw sg` is preserved by every cut
(`AwSpec` + the prefix claim of `weighted_median`), and implies the balance
clause `NodeBal` at the cut (`median_spec` + `Bracket`).
-/

namespace Coupe.GridRcb

/-- Balance of one cut: `W` = weight of the box being split, `L` = weight of its
low side, `L1` = weight of the low side extended by the slab just above the cut.
Either `L` is within 1 % of `W/2` up to one unit, or the cut is at the low edge
of the slab that contains the half-weight mark. -/
def NodeBal (W L L1 : Int) : Prop :=
  (99 * W - 200 ≤ 200 * L ∧ 200 * L ≤ 101 * W + 200) ∨ (2 * L ≤ W ∧ W ≤ 2 * L1)

/-- `NodeBal` at the node `sg`, cut after `k` slabs along `c`, for box weights `bw`. -/
def NodeBalAt (bw : SubGrid → Int) (sg : SubGrid) (c k : Nat) : Prop :=
  NodeBal (bw sg) (bw (sg.lo c k)) (bw (sg.lo c (k + 1)))

theorem inGrid_of_agree {D : Nat} {dims : Nat → Nat} {sg sg' : SubGrid} {c : Nat}
    (h : InGrid D dims sg)
    (hoff : ∀ i, i ≠ c → sg'.offset i = sg.offset i ∧ sg'.size i = sg.size i)
    (hc : sg'.offset c + sg'.size c ≤ sg.offset c + sg.size c) : InGrid D dims sg' := by
  intro i hi
  by_cases hic : i = c
  · subst hic; exact Nat.le_trans hc (h i hi)
  · rw [(hoff i hic).1, (hoff i hic).2]; exact h i hi

theorem inGrid_lo {D : Nat} {dims : Nat → Nat} {sg : SubGrid} {c k : Nat} (h : InGrid D dims sg)
    (hk : k ≤ sg.size c) : InGrid D dims (sg.lo c k) :=
  inGrid_of_agree h (lo_agree sg c k) (by simp only [SubGrid.lo, upd_same]; omega)

theorem inGrid_hi {D : Nat} {dims : Nat → Nat} {sg : SubGrid} {c k : Nat} (h : InGrid D dims sg)
    (hk : k ≤ sg.size c) : InGrid D dims (sg.hi c k) :=
  inGrid_of_agree h (hi_agree sg c k) (by simp only [SubGrid.hi, upd_same]; omega)

theorem inGrid_whole (D : Nat) (dims : Nat → Nat) : InGrid D dims (wholeGrid dims) := by
  intro i _; simp [wholeGrid]

theorem nodeBal_of_bracket {W minPw maxPw L L1 : Int} (hB : Bracket W minPw maxPw) (hW : 0 ≤ W)
    (h : (minPw ≤ L ∧ L ≤ maxPw) ∨ (L < minPw ∧ (maxPw < L1 ∨ L1 = W))) : NodeBal W L L1 := by
  obtain ⟨_, b1, b2, b3, b4⟩ := hB
  rcases h with ⟨h1, h2⟩ | ⟨h1, h2⟩
  · exact .inl ⟨Int.le_trans b1 (Int.mul_le_mul_of_nonneg_left h1 (by decide)),
      Int.le_trans (Int.mul_le_mul_of_nonneg_left h2 (by decide)) b2⟩
  · exact .inr ⟨by omega, by omega⟩

theorem median_nodeBal (cfg : Cfg) (T : Nat) (ws : List Int) (minPw maxPw : Int) (pos : Nat) (l : Int)
    (hc : max cfg.minChunks T ≠ 0) (hlen : 0 < ws.length) (hnn : 0 ≤ ws.sum)
    (hB : Bracket ws.sum minPw maxPw) (h : weightedMedian cfg T ws minPw maxPw = .ok (pos, l)) :
    pos < ws.length ∧ l = pre ws pos ∧ NodeBal ws.sum l (pre ws (pos + 1)) := by
  obtain ⟨hl, hspec⟩ := median_spec cfg T ws minPw maxPw pos l hc h
  obtain ⟨hp, hbal⟩ := hspec hlen
  refine ⟨hp, hl, nodeBal_of_bracket hB hnn ((hbal hB.1).imp_right fun ⟨a, b⟩ => ⟨a, ?_⟩)⟩
  by_cases hlast : pos + 1 < ws.length
  · exact .inl (b hlast)
  · have : pos + 1 = ws.length := by omega
    exact .inr (this ▸ pre_length ws)

theorem recurse_struct (env : Env) (dims : Nat → Nat) (bw : SubGrid → Int)
    (hspec : AwSpec env.D dims env.aw bw) (hD : 0 < env.D) (hch : max env.cfg.minChunks env.T ≠ 0)
    (iter : Nat) (sg : SubGrid) (total : Int) (c : Nat) (t : Tree) (hc : c < env.D)
    (hin : InGrid env.D dims sg) (h : recurse env iter sg total c = .ok t) :
    Bisect env.D (fun _ _ _ => True) iter t sg c := by
  refine recurse_bisect env _ (fun sg _ => InGrid env.D dims sg) hD ?_ iter sg total c t hc hin h
  intro sg total c axisW minPw maxPw k l hin hc h0 haw _ hmed
  obtain ⟨axisW', haw', hlen, _⟩ := hspec sg c hc hin
  cases haw.symm.trans haw'
  have hk : k < sg.size c :=
    hlen ▸ ((median_spec _ _ _ _ _ _ _ hch hmed).2 (hlen ▸ Nat.pos_of_ne_zero h0)).1
  exact ⟨hk, trivial, inGrid_lo hin (Nat.le_of_lt hk), inGrid_hi hin (Nat.le_of_lt hk)⟩

theorem recurse_balanced (env : Env) (dims : Nat → Nat) (bw : SubGrid → Int)
    (hspec : AwSpec env.D dims env.aw bw) (hD : 0 < env.D) (hch : max env.cfg.minChunks env.T ≠ 0)
    (hB : ∀ t a b, env.bracket t = some (a, b) → Bracket t a b) (hnn : ∀ sg, 0 ≤ bw sg)
    (iter : Nat) (sg : SubGrid) (total : Int) (c : Nat) (t : Tree) (hc : c < env.D)
    (hin : InGrid env.D dims sg) (htot : total = bw sg) (h : recurse env iter sg total c = .ok t) :
    Bisect env.D (NodeBalAt bw) iter t sg c := by
  refine recurse_bisect env _ (fun sg total => InGrid env.D dims sg ∧ total = bw sg) hD ?_
    iter sg total c t hc ⟨hin, htot⟩ h
  intro sg total c axisW minPw maxPw k l ⟨hin, htot⟩ hc h0 haw hbr hmed
  obtain ⟨axisW', haw', hlen, hsum, hsplit⟩ := hspec sg c hc hin
  cases haw.symm.trans haw'
  have hW : total = axisW.sum := htot.trans hsum.symm
  obtain ⟨hk, hl, hbal⟩ := median_nodeBal env.cfg env.T axisW minPw maxPw k l hch
    (hlen ▸ Nat.pos_of_ne_zero h0) (hsum ▸ hnn sg) (hW ▸ hB total minPw maxPw hbr) hmed
  rw [hlen] at hk
  obtain ⟨e1, e2⟩ := hsplit k (Nat.le_of_lt hk)
  obtain ⟨e3, _⟩ := hsplit (k + 1) hk
  refine ⟨hk, ?_, ⟨inGrid_lo hin (Nat.le_of_lt hk), hl.trans e1.symm⟩,
    ⟨inGrid_hi hin (Nat.le_of_lt hk), by rw [e2, hW, hl]⟩⟩
  rw [NodeBalAt, e1, e3, ← hsum, ← hl]
  exact hbal

theorem recurse_returns (env : Env) (dims : Nat → Nat) (bw : SubGrid → Int)
    (hspec : AwSpec env.D dims env.aw bw) (hD : 0 < env.D)
    (hch : 2 ≤ max env.cfg.minChunks env.T) (hbr : ∀ t, ∃ a b, env.bracket t = some (a, b)) :
    ∀ (iter : Nat) (sg : SubGrid) (total : Int) (c : Nat), c < env.D → InGrid env.D dims sg →
      ∃ t, recurse env iter sg total c = .ok t := by
  intro iter
  induction iter with
  | zero => intro sg total c _ _; exact ⟨.whole, rfl⟩
  | succ iter ih =>
    intro sg total c hc hin
    rw [recurse]
    split
    · exact ⟨.whole, rfl⟩
    · next h0 =>
      obtain ⟨axisW, haw, hlen, _⟩ := hspec sg c hc hin
      obtain ⟨minPw, maxPw, hb⟩ := hbr total
      obtain ⟨k, l, hmed, hk⟩ := median_ok env.cfg env.T axisW minPw maxPw hch
      have hk' : k ≤ sg.size c := Nat.le_of_lt (hlen ▸ hk (hlen ▸ Nat.pos_of_ne_zero h0))
      have hc' : (c + 1) % env.D < env.D := Nat.mod_lt _ hD
      obtain ⟨lt, hlt⟩ := ih (sg.lo c k) l _ hc' (inGrid_lo hin hk')
      obtain ⟨rt, hrt⟩ := ih (sg.hi c k) (total - l) _ hc' (inGrid_hi hin hk')
      simp only [haw, hb, hmed, splitAt_eq sg c k hk', hlt, hrt]
      exact ⟨_, rfl⟩

theorem lsum_range'_shift (f : Nat → Int) (a n : Nat) :
    lsum (List.range' a n) f = lsum (List.range' 0 n) (fun x => f (x + a)) := by
  rw [← Nat.add_zero a, ← List.map_add_range', lsum, List.map_map, Nat.add_zero]
  exact lsum_congr _ _ _ fun x _ => congrArg f (Nat.add_comm a x)

theorem lsum_flat (g : Nat → Int) (w m : Nat) :
    (lsum (List.range' 0 m) fun j => lsum (List.range' 0 w) fun x => g (x + w * j)) =
      lsum (List.range' 0 (w * m)) g := by
  induction m with
  | zero => rfl
  | succ m ih =>
    rw [List.range'_1_concat, Nat.mul_succ, ← List.range'_append_1, Nat.zero_add, Nat.zero_add,
      lsum_append, lsum_append, ih, lsum_cons, lsum_nil, lsum_range'_shift g (w * m) w, Int.add_zero]

theorem toList_sum_eq (ws : Array Int) : ws.toList.sum = lsum (List.range' 0 ws.size) (fun i => ws.getD i 0) := by
  have : (List.range' 0 ws.size).map (fun i => ws.getD i 0) = ws.toList :=
    List.ext_getElem (by rw [List.length_map, List.length_range', Array.length_toList]) fun i _ h => by
      rw [Array.length_toList] at h
      rw [List.getElem_map, List.getElem_range', Array.getElem_toList, Nat.zero_add, Nat.one_mul,
        Array.getD_eq_getD_getElem?, Array.getElem?_eq_getElem h, Option.getD_some]
  rw [lsum, this]

theorem boxWeight2_whole (w h : Nat) (ws : Array Int) (hsz : ws.size = w * h) :
    boxWeight2 w ws (wholeGrid (vec2 (w, h))) = ws.toList.sum := by
  rw [boxWeight2_eq, toList_sum_eq, hsz]
  simp only [SubGrid.axis, wholeGrid, vec2, cell2, indexOf2]
  exact lsum_flat (fun i => ws.getD i 0) w h

theorem boxWeight3_whole (w h d : Nat) (ws : Array Int) (hsz : ws.size = w * h * d) :
    boxWeight3 w h ws (wholeGrid (vec3 (w, h, d))) = ws.toList.sum := by
  rw [boxWeight3_eq, toList_sum_eq, hsz, Nat.mul_assoc]
  simp only [SubGrid.axis, wholeGrid, vec3, cell3, indexOf3]
  rw [← lsum_flat (fun i => ws.getD i 0) w (h * d)]
  exact lsum_flat (fun j => lsum (List.range' 0 w) fun x => ws.getD (x + w * j) 0) h d

theorem boxWeight2_nonneg (w : Nat) (ws : Array Int) (hnn : ∀ x ∈ ws.toList, 0 ≤ x) (sg : SubGrid) :
    0 ≤ boxWeight2 w ws sg := by
  rw [boxWeight2_eq]
  exact lsum_nonneg _ _ fun y _ => lsum_nonneg _ _ fun x _ => getD_nonneg ws hnn _

theorem boxWeight3_nonneg (w h : Nat) (ws : Array Int) (hnn : ∀ x ∈ ws.toList, 0 ≤ x) (sg : SubGrid) :
    0 ≤ boxWeight3 w h ws sg := by
  rw [boxWeight3_eq]
  exact lsum_nonneg _ _ fun z _ => lsum_nonneg _ _ fun y _ => lsum_nonneg _ _ fun x _ =>
    getD_nonneg ws hnn _

theorem rcb2_unfold (cfg : Cfg) (T : Nat) (bracket : Int → Option (Int × Int)) (w h : Nat) (ws : Array Int)
    (plen iter : Nat) (ids : List Nat) (hr : rcb2 cfg T bracket w h ws plen iter = .ok ids) :
    ∃ t, recurse { D := 2, cfg, T, bracket, aw := axisWeights2 w ws } iter (wholeGrid (vec2 (w, h)))
        ws.toList.sum 1 = .ok t ∧
      ids = (List.range plen).map fun i => partOf 2 t (vec2 (positionOf2 w i)) 1 := by
  simp only [rcb2] at hr
  split at hr
  · cases hr
  · next t ht =>
    simp only [Except.ok.injEq] at hr
    exact ⟨t, ht, hr.symm⟩

theorem rcb3_unfold (cfg : Cfg) (T : Nat) (bracket : Int → Option (Int × Int)) (w h d : Nat) (ws : Array Int)
    (plen iter : Nat) (ids : List Nat) (hr : rcb3 cfg T bracket w h d ws plen iter = .ok ids) :
    ∃ t, recurse { D := 3, cfg, T, bracket, aw := axisWeights3 w h ws } iter (wholeGrid (vec3 (w, h, d)))
        ws.toList.sum 1 = .ok t ∧
      ids = (List.range plen).map fun i => partOf 3 t (vec3 (positionOf3 w h i)) 1 := by
  simp only [rcb3] at hr
  split at hr
  · cases hr
  · next t ht =>
    simp only [Except.ok.injEq] at hr
    exact ⟨t, ht, hr.symm⟩

end Coupe.GridRcb
