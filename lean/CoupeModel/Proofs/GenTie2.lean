import CoupeModel.Gen.IntFns
import CoupeModel.Model.Hilbert
import CoupeModel.Proofs.HilbertCode
import CoupeModel.Proofs.GenTie

/-!
# GenTie2 (lemmas) — the Hilbert encoders assembled from the generated loop bodies

`Gen/IntFns.lean` holds, regenerated from `src/algorithms/hilbert_curve.rs` on every run, ONE turn of
each loop of `encode_2d_slow`, `encode_2d` (and of the initialiser of its `const LUT`), `encode_3d`,
and the straight-line code before/after the loops.  Here the loops themselves are put back around
these bodies (`whileFuel`, `forRev`: the loop headers are locked as text by the translator), giving
`genSlow2`, `genLut`, `genEncode2`, `genEncode3`, and these are proved equal to the hand-written code
mirrors of `Model/Hilbert.lean` (`slow2U`, `lut`, `fast2`, `enc3U`).
-/

namespace Coupe.GenTie2
open Coupe.Gen.IntFns Coupe.Gen.HilbertTables Coupe.Hilbert

/-- `while cond { step }`, at most `fuel` turns.  `none`: a turn panicked, or the condition still
holds after `fuel` turns. -/
def whileFuel {σ : Type} (cond : σ → Bool) (step : σ → Option σ) : Nat → σ → Option σ
  | 0, s => if cond s then none else some s
  | fuel + 1, s => if cond s then (step s).bind (whileFuel cond step fuel) else some s

/-- `for i in (0..n).rev() { step }`. -/
def forRev {σ : Type} (step : Nat → σ → Option σ) : Nat → σ → Option σ
  | 0, s => some s
  | i + 1, s => (step i s).bind (forRev step i)

theorem cshr_of_lt {bits s : Nat} (a : Nat) (h : s < bits) : cshr bits a s = some (a >>> s) := if_pos h

theorem cshl_of_lt {bits s : Nat} (a : Nat) (h : s < bits) :
    cshl bits a s = some ((a <<< s) % 2 ^ bits) := if_pos h

theorem cshrI_of {bits : Nat} {s : Int} (a : Nat) (h0 : 0 ≤ s) (h : s < bits) :
    cshrI bits a s = some (a >>> s.toNat) := if_pos ⟨h0, h⟩

theorem cshlI_of {bits : Nat} {s : Int} (a : Nat) (h0 : 0 ≤ s) (h : s < bits) :
    cshlI bits a s = some ((a <<< s.toNat) % 2 ^ bits) := if_pos ⟨h0, h⟩

/-! ## `encode_2d_slow` -/

/-- `encode_2d_slow(zorder, order, config)` around the generated loop body:
`let mut hilbert = 0; let mut i = order; while i > 0 { encode_2d_slow_step } (hilbert, config)`;
the `const` tables are the generated `BASE_PATTERN`, `CONFIGURATION` (through the accessors
`base2`, `conf2` of the model). -/
def genSlow2 (zorder order config : Nat) : Option (Nat × Nat) :=
  (whileFuel (fun s : Nat × Nat × Nat => decide (s.1 > 0))
      (fun s => encode_2d_slow_step base2 conf2 zorder s.1 s.2.1 s.2.2) order (order, 0, config)).map
    fun s => (s.2.1, s.2.2)

theorem and_lt (x m : Nat) : x &&& m < m + 1 := Nat.lt_succ_of_le Nat.and_le_right

theorem slow_step_eq (z i h c : Nat) (hi : i < 32) (hc : c < 4) :
    encode_2d_slow_step base2 conf2 z (i + 1) h c
      = some (i, ((h <<< 2) % W64) ||| base2 c ((z >>> (2 * i)) &&& 3), conf2 c ((z >>> (2 * i)) &&& 3)) := by
  simp only [encode_2d_slow_step, GenTie.csub_of_le (Nat.le_add_left 1 i), Nat.add_sub_cancel,
    cshr_of_lt z (by omega : 2 * i < 64), GenTie.cidx_of_lt hc, GenTie.cidx_of_lt (and_lt _ 3),
    Option.bind_eq_bind, Option.bind_some, Option.pure_def]
  rfl

theorem slow_loop_eq (z : Nat) : ∀ i h c, i ≤ 32 → c < 4 →
    whileFuel (fun s : Nat × Nat × Nat => decide (s.1 > 0))
      (fun s => encode_2d_slow_step base2 conf2 z s.1 s.2.1 s.2.2) i (i, h, c)
      = some (0, (slow2Loop z i h c).1, (slow2Loop z i h c).2)
  | 0, h, c, _, _ => by simp [whileFuel, slow2Loop]
  | i + 1, h, c, hi, hc => by
    rw [whileFuel]
    simp only [show decide (i + 1 > 0) = true by simp, if_true]
    rw [slow_step_eq z i h c (by omega) hc]
    simp only [Option.bind_some]
    rw [slow_loop_eq z i _ _ (by omega) (conf2_lt hc (and_lt _ 3))]
    rfl

theorem genSlow2_eq {order c : Nat} (ho : order ≤ 32) (hc : c < 4) (z : Nat) :
    genSlow2 z order c = some (slow2U z order c) := by
  rw [genSlow2, slow_loop_eq z order 0 c ho hc]
  rfl

/-! ## The `const LUT` of `encode_2d` -/

/-- `LUT[i]` of `encode_2d`: the generated body of the initialiser loop, calling the assembled
`encode_2d_slow` (a panic inside a `const` initialiser is a compile error; `(0, 0)` stands for it and
is never taken for `i < 16384`, see `encode_2d_lut_tie`). -/
def genLut (i : Nat) : Nat :=
  encode_2d_lut_entry (fun z o c => (genSlow2 z o c).getD (0, 0)) i

theorem genLut_eq (i : Nat) (hi : i < 16384) : genLut i = lut i := by
  have hc : i >>> 12 < 4 := by rw [Nat.shiftRight_eq_div_pow]; omega
  simp only [genLut, encode_2d_lut_entry, genSlow2_eq (by decide : 6 ≤ 32) hc, Option.getD_some, lut,
    LUT2_MASK, LUT2_BITS, LUT2_ORDER]
  rw [Nat.mod_mod_of_dvd _ (by decide : 65536 ∣ 18446744073709551616)]

theorem lut_lt (i : Nat) (hi : i < 16384) : lut i < 16384 := by
  have hc : i / 4096 < 4 := by omega
  have h := lut_spec hc (Nat.mod_lt i (by decide : 0 < 4096))
  have hl : _ < 4096 ∧ _ < 4 := runN_lt m2_valid hc 6 (i % 4096)
  rw [Nat.div_add_mod' i 4096] at h
  omega

/-! ## `encode_2d` -/

theorem idx_lt {c w : Nat} (hc : c < 16384) (hw : w < 4096) : (c &&& 61440) ||| w < 16384 := by
  rw [hi_mask (by omega), or_lo _ hw]; omega

/-- The lookup index of one turn of `fast2Loop`. -/
def idx2 (z c : Nat) (s : Int) : Nat := (c &&& (65535 - LUT2_MASK)) ||| ((z >>> s.toNat) &&& LUT2_MASK)

theorem step2_eq (z c h : Nat) (s : Int) (hs : 0 < s) (hs' : s < 64) (hc : c < 16384) :
    encode_2d_step genLut z c h s
      = some (lut (idx2 z c s), ((h <<< LUT2_BITS) % W64) ||| (lut (idx2 z c s) &&& LUT2_MASK), s - LUT2_BITS) := by
  have hw : z >>> s.toNat &&& 4095 < 4096 := and_lt _ 4095
  have hidx : (c &&& 61440) ||| (z >>> s.toNat &&& 4095) < 16384 := idx_lt hc hw
  -- `as u16` of the 12-bit group truncates nothing
  have hm := Nat.mod_eq_of_lt (Nat.lt_trans hw (by decide : 4096 < 65536))
  simp only [encode_2d_step, cshrI_of z (Int.le_of_lt hs) hs', hm, Nat.reduceSub,
    GenTie.cidx_of_lt hidx, genLut_eq _ hidx, Option.bind_eq_bind, Option.bind_some, Option.pure_def]
  rfl

/-- `encode_2d(x, y, order)` around the generated pieces: the `debug_assert!`s (locked as text by the
translator), `let zorder`, the initial loop state, `while shift > 0 { encode_2d_step }` (at most
`order` turns), the code after the loop.  `pdep_u64` is `pdep_u64_fallback` as modelled. -/
def genEncode2 (x y order : Nat) : Option Nat :=
  if order < 64 ∧ x < 2 ^ order ∧ y < 2 ^ order then
    let zorder := encode_2d_zorder pdepFallback x y
    (whileFuel (fun s : Nat × Nat × Int => decide (s.2.2 > 0))
        (fun s => encode_2d_step genLut zorder s.1 s.2.1 s.2.2) order (encode_2d_init order)).bind
      fun s => encode_2d_final genLut zorder s.1 s.2.1 s.2.2
  else none

theorem loop2_eq (z : Nat) : ∀ fuel (s : Int) c h, c < 16384 → s < 64 → (fast2Loop z fuel s c h).1 ≤ 0 →
    whileFuel (fun s : Nat × Nat × Int => decide (s.2.2 > 0))
        (fun s => encode_2d_step genLut z s.1 s.2.1 s.2.2) fuel (c, h, s)
      = some ((fast2Loop z fuel s c h).2.1, (fast2Loop z fuel s c h).2.2, (fast2Loop z fuel s c h).1) ∧
    (fast2Loop z fuel s c h).2.1 < 16384
  | 0, s, c, h, hc, _, hex => by
    simp only [fast2Loop] at hex ⊢
    have : ¬ s > 0 := by omega
    simp [whileFuel, this, hc]
  | fuel + 1, s, c, h, hc, hs, hex => by
    rw [fast2Loop] at hex ⊢
    by_cases hpos : s > 0
    · rw [if_pos hpos] at hex ⊢
      have hidx : idx2 z c s < 16384 := idx_lt hc (and_lt _ 4095)
      have ih := loop2_eq z fuel (s - LUT2_BITS) (lut (idx2 z c s))
        (((h <<< LUT2_BITS) % W64) ||| (lut (idx2 z c s) &&& LUT2_MASK)) (lut_lt _ hidx)
        (by simp only [LUT2_BITS]; omega) hex
      rw [whileFuel]
      simp only [hpos, decide_true, if_true]
      rw [step2_eq z c h s hpos hs hc]
      simp only [Option.bind_some]
      exact ih
    · rw [if_neg hpos]
      simp [whileFuel, hpos, hc]

theorem zorder2_eq (x y : Nat) : encode_2d_zorder pdepFallback x y = zorder2 x y := rfl

/-! ## `encode_3d` -/

/-- The `const LUT` of `encode_3d` (generated table) as a function of the index. -/
def lut3 (i : Nat) : Nat := LUT3.getD i 0

/-- `encode_3d(x, y, z, order)` around the generated pieces: `debug_assert!`s, `let zorder`,
`let mut config = 0; let mut hilbert = 0; for i in (0..order).rev() { encode_3d_step } hilbert`. -/
def genEncode3 (x y z order : Nat) : Option Nat :=
  if order < 64 ∧ x < 2 ^ order ∧ y < 2 ^ order ∧ z < 2 ^ order then
    (forRev (fun i (s : Nat × Nat) => encode_3d_step lut3 (encode_3d_zorder pdepFallback x y z) i s.1 s.2)
      order (0, 0)).map fun s => s.2
  else none

theorem step3_eq (z i s h : Nat) (hi : i ≤ 20) (hs : s < 12) :
    encode_3d_step lut3 z i (8 * s) h
      = some (lut3 ((8 * s) ||| ((z >>> (3 * i)) &&& 7)) &&& (W64 - 8),
              ((h <<< 3) % W64) ||| (lut3 ((8 * s) ||| ((z >>> (3 * i)) &&& 7)) &&& 7)) := by
  have hq : (z >>> (3 * i)) &&& 7 < 8 := and_lt _ 7
  have hidx : (8 * s) ||| ((z >>> (3 * i)) &&& 7) < 96 := by rw [or_oct hq]; omega
  simp only [encode_3d_step, cshr_of_lt z (by omega : 3 * i < 64), GenTie.cidx_of_lt hidx,
    Option.bind_eq_bind, Option.bind_some, Option.pure_def]
  rfl

theorem loop3_eq (z : Nat) : ∀ i s h, i ≤ 21 → s < 12 →
    (forRev (fun i (st : Nat × Nat) => encode_3d_step lut3 z i st.1 st.2) i (8 * s, h)).map (fun st => st.2)
      = some (enc3Loop z i (8 * s) h)
  | 0, s, h, _, _ => by simp [forRev, enc3Loop]
  | i + 1, s, h, hi, hs => by
    have hq : (z >>> (3 * i)) &&& 7 < 8 := and_lt _ 7
    have hv := Nat.lt_trans (lut3_lt hs hq) (by decide : 96 < W64)
    rw [forRev]
    simp only []
    rw [step3_eq z i s h (by omega) hs]
    simp only [Option.bind_some, lut3]
    rw [or_oct hq, clear7 hv]
    have ih := loop3_eq z i (conf3 s ((z >>> (3 * i)) &&& 7))
      (((h <<< 3) % W64) ||| (LUT3.getD (8 * s + ((z >>> (3 * i)) &&& 7)) 0 &&& 7)) (by omega) (conf3_lt hs hq)
    rw [enc3Loop, or_oct hq, clear7 hv]
    exact ih

end Coupe.GenTie2
