import CoupeModel.Gen.IntFns

/-!
# Lemmas behind `Props/GenTie.lean`, part 1: the generated integer functions

The checked operations of `Gen/IntFns.lean` and the bitwise identity
behind `Average::avg`.  Core tactics only.
-/

namespace Coupe.GenTie
open Coupe.Gen.IntFns

theorem csub_of_le {a b : Nat} (h : b ≤ a) : csub a b = some (a - b) := by simp [csub, h]
theorem csub_of_lt {a b : Nat} (h : a < b) : csub a b = none := by
  simp only [csub]; rw [if_neg (by omega)]
theorem cdiv_of_pos {a b : Nat} (h : 0 < b) : cdiv a b = some (a / b) := by
  simp only [cdiv]; rw [if_neg (by omega)]
theorem cdiv_zero (a : Nat) : cdiv a 0 = none := by simp [cdiv]
theorem cmod_of_pos {a b : Nat} (h : 0 < b) : cmod a b = some (a % b) := by
  simp only [cmod]; rw [if_neg (by omega)]
theorem cmod_zero (a : Nat) : cmod a 0 = none := by simp [cmod]
theorem cidx_of_lt {i n : Nat} (h : i < n) : cidx i n = some () := by simp [cidx, h]
theorem cidx_of_ge {i n : Nat} (h : n ≤ i) : cidx i n = none := by
  simp only [cidx]; rw [if_neg (by omega)]

/-- The bitwise identity behind "average without overflow":
`a + b = 2·(a AND b) + (a XOR b)`. -/
theorem add_eq_two_mul_and_add_xor (a b : Nat) : a + b = 2 * (a &&& b) + (a ^^^ b) := by
  induction a using Nat.strongRecOn generalizing b with
  | _ a ih =>
    by_cases ha : a = 0
    · subst ha; simp
    · have ih' := ih (a / 2) (by omega) (b / 2)
      have h1 : (a &&& b) / 2 = a / 2 &&& b / 2 := Nat.and_div_two
      have h2 : (a ^^^ b) / 2 = a / 2 ^^^ b / 2 := Nat.xor_div_two
      have h3 := @Nat.and_mod_two_eq_one a b
      have h4 := @Nat.xor_mod_two_eq_one a b
      omega

theorem avg_eq (a b : Nat) : avg a b = (a + b) / 2 := by
  have h := add_eq_two_mul_and_add_xor a b
  simp only [avg]
  omega

theorem and_le_left' (a b : Nat) : a &&& b ≤ a := Nat.and_le_left
theorem xor_lt_two_pow' {a b n : Nat} (ha : a < 2 ^ n) (hb : b < 2 ^ n) : a ^^^ b < 2 ^ n :=
  Nat.xor_lt_two_pow ha hb

end Coupe.GenTie
