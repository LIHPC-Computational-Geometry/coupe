import CoupeModel.Proofs.HilbertCode

/-!
# `pdep_u64_fallback` with the masks of `encode_2d` / `encode_3d` interleaves the coordinate
bits as the table machines assume (C08)

The loop is split into what depends on the mask only (`lowbits`, evaluated on the five
masks) and the deposit of the source bits (`orFold`), which for bits at a constant stride
is the sum `spread`.
-/

namespace Coupe.Hilbert
open Coupe.Gen.HilbertTables

/-- The successive values of `rightmost` in `pdep_u64_fallback` (they depend on the mask only). -/
def lowbits : Nat → Nat → List Nat
  | 0, _ => []
  | fuel + 1, bm =>
    if bm != 0 then (bm &&& ((W64 - bm) % W64)) :: lowbits fuel (bm &&& (bm - 1)) else []

/-- Deposit the low bits of `src` at the given single-bit values. -/
def orFold : Nat → Nat → List Nat → Nat
  | res, _, [] => res
  | res, src, r :: rs => orFold (res ||| ((src &&& 1) * r)) (src >>> 1) rs

theorem pdepLoop_zero : ∀ fuel res src, pdepLoop fuel res 0 src = res
  | 0, _, _ => rfl
  | fuel + 1, res, src => by simp [pdepLoop, pdepLoop_zero fuel]

theorem pdepLoop_eq : ∀ fuel res bm src, pdepLoop fuel res bm src = orFold res src (lowbits fuel bm)
  | 0, _, _, _ => rfl
  | fuel + 1, res, bm, src => by
    by_cases h : bm = 0
    · subst h; simp [pdepLoop, pdepLoop_zero, lowbits, orFold]
    · simp [pdepLoop, lowbits, h, orFold, pdepLoop_eq fuel]

/-- `2^a, 2^(a+b), 2^(a+2b), …` (`n` values). -/
def strideList (b : Nat) : Nat → Nat → List Nat
  | _, 0 => []
  | a, n + 1 => 2 ^ a :: strideList b (a + b) n

/-- `Σ_{i<n} bit_i(src) · 2^(b·i)`. -/
def spread (b : Nat) : Nat → Nat → Nat
  | 0, _ => 0
  | n + 1, src => src % 2 + 2 ^ b * spread b n (src / 2)

theorem orFold_stride {b : Nat} (hb : 1 ≤ b) : ∀ n res src a, res < 2 ^ a →
    orFold res src (strideList b a n) = res + 2 ^ a * spread b n src
  | 0, res, src, a, _ => by simp [strideList, orFold, spread]
  | n + 1, res, src, a, h => by
    have hbit : src % 2 < 2 := Nat.mod_lt _ (by decide)
    have hor : res ||| ((src &&& 1) * 2 ^ a) = res + (src % 2) * 2 ^ a := by
      rw [Nat.and_one_is_mod, Nat.or_comm, mul_two_pow_or _ h, Nat.add_comm]
    have hlt : res + (src % 2) * 2 ^ a < 2 ^ (a + b) := by
      have h1 : (src % 2) * 2 ^ a ≤ 1 * 2 ^ a := Nat.mul_le_mul_right _ (by omega)
      have h2 : 2 ^ (a + 1) ≤ 2 ^ (a + b) := Nat.pow_le_pow_right (by decide) (by omega)
      rw [Nat.pow_succ] at h2
      omega
    rw [strideList, orFold, hor, Nat.shiftRight_one, orFold_stride hb n _ _ _ hlt, spread, Nat.pow_add]
    ring

theorem mul_spread_succ (c b n x : Nat) :
    c * spread b (n + 1) x = c * (x % 2) + 2 ^ b * (c * spread b n (x / 2)) := by
  rw [spread, Nat.mul_add, Nat.mul_left_comm]

theorem spread_succ_of_lt (b : Nat) : ∀ n s, s < 2 ^ n → spread b (n + 1) s = spread b n s
  | 0, s, h => by
    have : s = 0 := by simpa using h
    subst this; simp [spread]
  | n + 1, s, h => by
    rw [spread, spread_succ_of_lt b n (s / 2) (by rw [Nat.pow_succ] at h; omega)]
    rfl

theorem pdep_stride {mask b a n : Nat} (hb : 1 ≤ b) (h : lowbits 64 mask = strideList b a n)
    (src : Nat) : pdepFallback src mask = 2 ^ a * spread b n src := by
  rw [pdepFallback, pdepLoop_eq, h, orFold_stride hb n 0 src a (Nat.two_pow_pos a), Nat.zero_add]

theorem lowbits_mask2 : lowbits 64 MASK2 = strideList 2 0 32 := by decide +kernel
theorem lowbits_mask2x : lowbits 64 ((MASK2 <<< MASK2_SHIFT_X) % W64) = strideList 2 1 32 := by decide +kernel
theorem lowbits_mask3 : lowbits 64 MASK3 = strideList 3 0 22 := by decide +kernel
theorem lowbits_mask3y : lowbits 64 ((MASK3 <<< MASK3_SHIFT_Y) % W64) = strideList 3 1 21 := by decide +kernel
theorem lowbits_mask3x : lowbits 64 ((MASK3 <<< MASK3_SHIFT_X) % W64) = strideList 3 2 21 := by decide +kernel

theorem or_split (i : Nat) {a0 b0 : Nat} (a1 b1 : Nat) (ha : a0 < 2 ^ i) (hb : b0 < 2 ^ i) :
    (a0 + 2 ^ i * a1) ||| (b0 + 2 ^ i * b1) = (a0 ||| b0) + 2 ^ i * (a1 ||| b1) := by
  have hab : a0 ||| b0 < 2 ^ i := Nat.or_lt_two_pow ha hb
  rw [Nat.add_comm a0, Nat.add_comm b0, Nat.add_comm (a0 ||| b0), Nat.mul_comm _ a1, Nat.mul_comm _ b1,
    Nat.mul_comm _ (a1 ||| b1), ← Nat.shiftLeft_eq, ← Nat.shiftLeft_eq, ← Nat.shiftLeft_eq,
    Nat.shiftLeft_add_eq_or_of_lt ha, Nat.shiftLeft_add_eq_or_of_lt hb, Nat.shiftLeft_add_eq_or_of_lt hab,
    Nat.shiftLeft_or_distrib]
  ac_rfl

/-- Interleaved quadrant number of the `n` low bits of `x`, `y` (least significant first). -/
def il2 : Nat → Nat → Nat → Nat
  | 0, _, _ => 0
  | n + 1, x, y => (2 * (x % 2) + y % 2) + 4 * il2 n (x / 2) (y / 2)

theorem bits2_or : ∀ a : Nat, a < 2 → ∀ b : Nat, b < 2 → (2 * a) ||| b = 2 * a + b := by decide

theorem spread_or2 : ∀ n x y, (2 * spread 2 n x) ||| spread 2 n y = il2 n x y
  | 0, _, _ => by simp [spread, il2]
  | n + 1, x, y => by
    have hx : x % 2 < 2 := Nat.mod_lt _ (by decide)
    have hy : y % 2 < 2 := Nat.mod_lt _ (by decide)
    rw [mul_spread_succ, spread, or_split 2 _ _ (by omega) (by omega), spread_or2 n, bits2_or _ hx _ hy, il2]
    rfl

theorem digits_il2 : ∀ n k x y, k ≤ n → digits 4 k (il2 n x y) = zdigits2 k x y
  | _, 0, _, _, _ => rfl
  | 0, k + 1, _, _, h => by omega
  | n + 1, k + 1, x, y, h => by
    rw [il2, digits_add_mul k (by omega), digits_il2 n k _ _ (by omega), zdigits2_succ]

/-- Interleaved octant number (least significant first). -/
def il3 : Nat → Nat → Nat → Nat → Nat
  | 0, _, _, _ => 0
  | n + 1, x, y, z => (4 * (x % 2) + 2 * (y % 2) + z % 2) + 8 * il3 n (x / 2) (y / 2) (z / 2)

theorem bits3_or : ∀ a : Nat, a < 2 → ∀ b : Nat, b < 2 → ∀ c : Nat, c < 2 → ((4 * a) ||| (2 * b)) ||| c = 4 * a + 2 * b + c := by
  decide

theorem bits3_or' : ∀ a : Nat, a < 2 → ∀ b : Nat, b < 2 → (4 * a) ||| (2 * b) < 8 := by decide

theorem spread_or3 : ∀ n x y z,
    ((4 * spread 3 n x) ||| (2 * spread 3 n y)) ||| spread 3 n z = il3 n x y z
  | 0, _, _, _ => by simp [spread, il3]
  | n + 1, x, y, z => by
    have hx : x % 2 < 2 := Nat.mod_lt _ (by decide)
    have hy : y % 2 < 2 := Nat.mod_lt _ (by decide)
    have hz : z % 2 < 2 := Nat.mod_lt _ (by decide)
    rw [mul_spread_succ, mul_spread_succ, spread, or_split 3 _ _ (by omega) (by omega),
      or_split 3 _ _ (bits3_or' _ hx _ hy) (by omega), spread_or3 n, bits3_or _ hx _ hy _ hz, il3]
    rfl

theorem digits_il3 : ∀ n k x y z, k ≤ n → digits 8 k (il3 n x y z) = zdigits3 k x y z
  | _, 0, _, _, _, _ => rfl
  | 0, k + 1, _, _, _, h => by omega
  | n + 1, k + 1, x, y, z, h => by
    rw [il3, digits_add_mul k (by omega), digits_il3 n k _ _ _ (by omega), zdigits3_succ]

end Coupe.Hilbert
