import CoupeModel.Model.ArcSwap
import CoupeModel.Proofs.Basic
import Mathlib.Tactic.SplitIfs

/-!
# ArcSwap: the steps of a task, and well-formedness of the local states

* `TStep`: the step function `stepTask` as a relation with one rule per branch. Every
  invariant of the later parts is proved by cases on this relation; `stepTask` itself is
  unfolded here only.
* `TaskOk`: every vertex a task mentions (program counter, `cut` stack) is in range,
  target parts are `< part_count`, and the task is not in `Pc.panic`. Preserved by every
  step on a graph whose neighbour indices are in range, when `part_count ≥ 2`.
-/

namespace Coupe.ArcSwap

def InRange (g : Graph) : Prop := ∀ v e, e ∈ adj g v → e.1 < g.length

theorem nbr_mem {g : Graph} {v k : Nat} (h : k < deg g v) : (nbr g v k, ((adj g v).getD k (0, 0)).2) ∈ adj g v :=
  getD_mem (0, 0) h

theorem nbr_lt {g : Graph} (hg : InRange g) {v k : Nat} (h : k < deg g v) : nbr g v k < g.length :=
  hg v _ (nbr_mem h)

theorem nextTarget_spec {pcount ip t t' : Nat} (h : nextTarget pcount ip t = some t') :
    t' < pcount ∧ t' ≠ ip ∧ t ≤ t' := by
  unfold nextTarget at h
  simp only at h
  split_ifs at h with h1 h2 h2 <;> simp only [Option.some.injEq] at h <;> omega

theorem nextTarget_zero_ne_none {pcount ip : Nat} (h : 2 ≤ pcount) : nextTarget pcount ip 0 ≠ none := by
  unfold nextTarget
  simp only
  split_ifs <;> first | exact Option.some_ne_none _ | omega

/-- `TStep c tmax t pc t' ev`: a task with local state `t` whose program counter is `pc` becomes
`t'` and emits `ev`. One rule per branch of `stepTask`. The rules do not mention the shared
arrays: a load event carries the value read, and the rule says what the task does with it;
that the value is the one in memory is `Event.Reads`. -/
inductive TStep (c : Cfg) (tmax : List Int) (t : Task) : Pc → Task → Event → Prop
  | begin : t.lo < t.hi → TStep c tmax t .notStarted { t with scan := t.lo, pc := .scanOwn t.lo } .taskBegin
  | beginEmpty : ¬ t.lo < t.hi → TStep c tmax t .notStarted { t with scan := t.lo, pc := .atEnd } .taskBegin
  | scanIsolated {v ip} : deg c.g v = 0 → TStep c tmax t (.scanOwn v) (nextScan t) (.partLoad v ip)
  | scanFirst {v ip} : deg c.g v ≠ 0 →
      TStep c tmax t (.scanOwn v) { t with pc := .scanNbr v ip 0 } (.partLoad v ip)
  | scanCut {v ip k p} : p ≠ ip →
      TStep c tmax t (.scanNbr v ip k) (popCut { t with cut := v :: t.cut }) (.partLoad (nbr c.g v k) p)
  | scanNext {v ip k} : k + 1 < deg c.g v →
      TStep c tmax t (.scanNbr v ip k) { t with pc := .scanNbr v ip (k + 1) } (.partLoad (nbr c.g v k) ip)
  | scanLast {v ip k} : ¬ k + 1 < deg c.g v →
      TStep c tmax t (.scanNbr v ip k) (nextScan t) (.partLoad (nbr c.g v k) ip)
  | casFail {v} :
      TStep c tmax t (.cas v) (popCut { t with md := { t.md with lockedCount := t.md.lockedCount + 1 } })
        (.cas v false)
  | casIsolated {v} : deg c.g v = 0 → TStep c tmax t (.cas v) { t with pc := .ownPart v } (.cas v true)
  | casFirst {v} : deg c.g v ≠ 0 → TStep c tmax t (.cas v) { t with pc := .nbrLock v 0 } (.cas v true)
  | lockRaced {v k} :
      TStep c tmax t (.nbrLock v k)
        { t with md := { t.md with raceCount := t.md.raceCount + 1 }, pc := .unlock v .raced }
        (.lockLoad (nbr c.g v k) true)
  | lockNext {v k} : k + 1 < deg c.g v →
      TStep c tmax t (.nbrLock v k) { t with pc := .nbrLock v (k + 1) } (.lockLoad (nbr c.g v k) false)
  | lockLast {v k} : ¬ k + 1 < deg c.g v →
      TStep c tmax t (.nbrLock v k) { t with pc := .ownPart v } (.lockLoad (nbr c.g v k) false)
  | ownIsolated {v ip} : deg c.g v = 0 →
      TStep c tmax t (.ownPart v)
        { t with md := { t.md with noGainCount := t.md.noGainCount + 1 }, pc := .unlock v .rejected }
        (.partLoad v ip)
  | ownPanic {v ip} : deg c.g v ≠ 0 → nextTarget c.partCount ip 0 = none →
      TStep c tmax t (.ownPart v) { t with pc := .panic } (.partLoad v ip)
  | ownFirst {v ip tgt} : deg c.g v ≠ 0 → nextTarget c.partCount ip 0 = some tgt →
      TStep c tmax t (.ownPart v) { t with pc := .gainRd v ip tgt 0 0 none } (.partLoad v ip)
  | gainNext {v ip tgt k acc best p} : k + 1 < deg c.g v →
      TStep c tmax t (.gainRd v ip tgt k acc best)
        { t with pc := .gainRd v ip tgt (k + 1) (acc + contrib ip tgt p ((adj c.g v).getD k (0, 0)).2) best }
        (.partLoad (nbr c.g v k) p)
  | gainTarget {v ip tgt k acc best p tgt'} : ¬ k + 1 < deg c.g v →
      nextTarget c.partCount ip (tgt + 1) = some tgt' →
      TStep c tmax t (.gainRd v ip tgt k acc best)
        { t with pc := .gainRd v ip tgt' 0 0
                    (some (better best tgt (acc + contrib ip tgt p ((adj c.g v).getD k (0, 0)).2))) }
        (.partLoad (nbr c.g v k) p)
  | gainNone {v ip tgt k acc best p b} : ¬ k + 1 < deg c.g v → nextTarget c.partCount ip (tgt + 1) = none →
      b = better best tgt (acc + contrib ip tgt p ((adj c.g v).getD k (0, 0)).2) → b.2 ≤ 0 →
      TStep c tmax t (.gainRd v ip tgt k acc best)
        { t with md := { t.md with noGainCount := t.md.noGainCount + 1 }, pc := .unlock v .rejected }
        (.partLoad (nbr c.g v k) p)
  | gainOverCap {v ip tgt k acc best p b} : ¬ k + 1 < deg c.g v → nextTarget c.partCount ip (tgt + 1) = none →
      b = better best tgt (acc + contrib ip tgt p ((adj c.g v).getD k (0, 0)).2) → ¬ b.2 ≤ 0 →
      tmax.getD b.1 0 < c.w.getD v 0 + t.pw.getD b.1 0 →
      TStep c tmax t (.gainRd v ip tgt k acc best)
        { t with md := { t.md with badBalanceCount := t.md.badBalanceCount + 1 }, pc := .unlock v .rejected }
        (.partLoad (nbr c.g v k) p)
  | gainStore {v ip tgt k acc best p b} : ¬ k + 1 < deg c.g v → nextTarget c.partCount ip (tgt + 1) = none →
      b = better best tgt (acc + contrib ip tgt p ((adj c.g v).getD k (0, 0)).2) → ¬ b.2 ≤ 0 →
      ¬ tmax.getD b.1 0 < c.w.getD v 0 + t.pw.getD b.1 0 →
      TStep c tmax t (.gainRd v ip tgt k acc best) { t with pc := .store v ip b.1 b.2 } (.partLoad (nbr c.g v k) p)
  | store {v ip tgt gain} :
      TStep c tmax t (.store v ip tgt gain)
        { t with
          md := { t.md with moveCount := t.md.moveCount + 1, edgeCutGain := t.md.edgeCutGain + gain }
          pw := addAt (addAt t.pw ip (-(c.w.getD v 0))) tgt (c.w.getD v 0)
          pc := .unlock v .moved } (.partStore v tgt)
  | unlockPost {v} : deg c.g v ≠ 0 →
      TStep c tmax t (.unlock v .moved) { t with pc := .postNbr v 0 } (.lockStore v false)
  | unlockPop {v a} : (a = .moved → deg c.g v = 0) → TStep c tmax t (.unlock v a) (popCut t) (.lockStore v false)
  | postIsolated {mv k np} : deg c.g (nbr c.g mv k) = 0 →
      TStep c tmax t (.postNbr mv k) (postNext c t mv k) (.partLoad (nbr c.g mv k) np)
  | postPanic {mv k np} : deg c.g (nbr c.g mv k) ≠ 0 → nextTarget c.partCount np 0 = none →
      TStep c tmax t (.postNbr mv k) { t with pc := .panic } (.partLoad (nbr c.g mv k) np)
  | postFirst {mv k np tgt} : deg c.g (nbr c.g mv k) ≠ 0 → nextTarget c.partCount np 0 = some tgt →
      TStep c tmax t (.postNbr mv k) { t with pc := .postGain mv k np tgt 0 0 none }
        (.partLoad (nbr c.g mv k) np)
  | postGainNext {mv k np tgt k2 acc best p} : k2 + 1 < deg c.g (nbr c.g mv k) →
      TStep c tmax t (.postGain mv k np tgt k2 acc best)
        { t with pc := .postGain mv k np tgt (k2 + 1)
                    (acc + contrib np tgt p ((adj c.g (nbr c.g mv k)).getD k2 (0, 0)).2) best }
        (.partLoad (nbr c.g (nbr c.g mv k) k2) p)
  | postGainTarget {mv k np tgt k2 acc best p tgt'} : ¬ k2 + 1 < deg c.g (nbr c.g mv k) →
      nextTarget c.partCount np (tgt + 1) = some tgt' →
      TStep c tmax t (.postGain mv k np tgt k2 acc best)
        { t with pc := .postGain mv k np tgt' 0 0
                    (some (bestMax best (acc + contrib np tgt p ((adj c.g (nbr c.g mv k)).getD k2 (0, 0)).2))) }
        (.partLoad (nbr c.g (nbr c.g mv k) k2) p)
  | postGainPush {mv k np tgt k2 acc best p} : ¬ k2 + 1 < deg c.g (nbr c.g mv k) →
      nextTarget c.partCount np (tgt + 1) = none →
      0 < bestMax best (acc + contrib np tgt p ((adj c.g (nbr c.g mv k)).getD k2 (0, 0)).2) →
      TStep c tmax t (.postGain mv k np tgt k2 acc best) (postNext c { t with cut := nbr c.g mv k :: t.cut } mv k)
        (.partLoad (nbr c.g (nbr c.g mv k) k2) p)
  | postGainSkip {mv k np tgt k2 acc best p} : ¬ k2 + 1 < deg c.g (nbr c.g mv k) →
      nextTarget c.partCount np (tgt + 1) = none →
      ¬ 0 < bestMax best (acc + contrib np tgt p ((adj c.g (nbr c.g mv k)).getD k2 (0, 0)).2) →
      TStep c tmax t (.postGain mv k np tgt k2 acc best) (postNext c t mv k)
        (.partLoad (nbr c.g (nbr c.g mv k) k2) p)
  | finish : TStep c tmax t .atEnd { t with pc := .done } .taskEnd

def Event.Reads (parts : List Nat) (locks : List Bool) : Event → Prop
  | .partLoad u p => parts.getD u 0 = p
  | .lockLoad u b => locks.getD u false = b
  | .cas v ok => locks.getD v false = !ok
  | _ => True

variable {c : Cfg} {parts : List Nat} {locks : List Bool} {tmax : List Int} {t t' : Task} {ev : Event}

theorem TStep.of_stepTask (h : stepTask c parts locks tmax t = some (t', ev)) :
    TStep c tmax t t.pc t' ev ∧ ev.Reads parts locks := by
  unfold stepTask at h
  split at h <;> rename_i hpc <;> rw [hpc] <;> try (cases h)
  · split_ifs with h1
    · exact ⟨.begin h1, trivial⟩
    · exact ⟨.beginEmpty h1, trivial⟩
  · split_ifs with h1
    · exact ⟨.scanIsolated h1, rfl⟩
    · exact ⟨.scanFirst h1, rfl⟩
  · split_ifs with h1 h2
    · exact ⟨.scanCut h1, rfl⟩
    all_goals have hp := Decidable.of_not_not h1; rw [hp]
    · exact ⟨.scanNext h2, hp⟩
    · exact ⟨.scanLast h2, hp⟩
  · split_ifs at h with h1 h2 <;> cases h
    · exact ⟨.casFail, h1⟩
    · exact ⟨.casIsolated h2, Bool.eq_false_iff.2 h1⟩
    · exact ⟨.casFirst h2, Bool.eq_false_iff.2 h1⟩
  · split_ifs with h1 h2
    · rw [h1]; exact ⟨.lockRaced, h1⟩
    · rw [Bool.eq_false_iff.2 h1]; exact ⟨.lockNext h2, Bool.eq_false_iff.2 h1⟩
    · rw [Bool.eq_false_iff.2 h1]; exact ⟨.lockLast h2, Bool.eq_false_iff.2 h1⟩
  · split_ifs with h1
    · exact ⟨.ownIsolated h1, rfl⟩
    · split
      · exact ⟨.ownPanic h1 ‹_›, rfl⟩
      · exact ⟨.ownFirst h1 ‹_›, rfl⟩
  · split_ifs with h1
    · exact ⟨.gainNext h1, rfl⟩
    · split
      · exact ⟨.gainTarget h1 ‹_›, rfl⟩
      · dsimp only [decideMove]
        split_ifs with h2 h3
        · exact ⟨.gainNone h1 ‹_› rfl h2, rfl⟩
        · exact ⟨.gainOverCap h1 ‹_› rfl h2 h3, rfl⟩
        · exact ⟨.gainStore h1 ‹_› rfl h2 h3, rfl⟩
  · exact ⟨.store, trivial⟩
  · split
    · split_ifs with h1
      · exact ⟨.unlockPop fun _ => h1, trivial⟩
      · exact ⟨.unlockPost h1, trivial⟩
    · exact ⟨.unlockPop fun h => absurd h ‹_›, trivial⟩
  · split_ifs with h1
    · exact ⟨.postIsolated h1, rfl⟩
    · split
      · exact ⟨.postPanic h1 ‹_›, rfl⟩
      · exact ⟨.postFirst h1 ‹_›, rfl⟩
  · split_ifs with h1
    · exact ⟨.postGainNext h1, rfl⟩
    · split
      · exact ⟨.postGainTarget h1 ‹_›, rfl⟩
      · dsimp only
        split_ifs with h2
        · exact ⟨.postGainPush h1 ‹_› h2, rfl⟩
        · exact ⟨.postGainSkip h1 ‹_› h2, rfl⟩
  · exact ⟨.finish, trivial⟩

theorem stepTask_some (parts : List Nat) (locks : List Bool) (tmax : List Int)
    (h1 : t.pc ≠ .done) (h2 : t.pc ≠ .panic) : ∃ t' ev, stepTask c parts locks tmax t = some (t', ev) := by
  unfold stepTask
  split
  -- the arms of `stepTask` in source order: 4 is `cas` (the only one left with a nested test),
  -- 13 and 14 are `done` and `panic`
  case h_4 => split_ifs <;> exact ⟨_, _, rfl⟩
  case h_13 h => exact absurd h h1
  case h_14 h => exact absurd h h2
  all_goals exact ⟨_, _, rfl⟩

def PcOk (c : Cfg) (n : Nat) : Pc → Prop
  | .scanOwn v => v < n
  | .scanNbr v _ _ => v < n
  | .cas v => v < n
  | .nbrLock v _ => v < n
  | .ownPart v => v < n
  | .gainRd v ip tgt k _ best =>
    v < n ∧ k < deg c.g v ∧ tgt < c.partCount ∧ tgt ≠ ip ∧
      ∀ b, best = some b → b.1 < c.partCount ∧ b.1 ≠ ip
  | .store v ip tgt _ => v < n ∧ tgt < c.partCount ∧ tgt ≠ ip
  | .unlock v _ => v < n
  | .postNbr mv k => mv < n ∧ k < deg c.g mv
  | .postGain mv k _ _ _ _ _ => mv < n ∧ k < deg c.g mv
  | .panic => False
  | _ => True

def BaseOk (n : Nat) (t : Task) : Prop := (∀ v ∈ t.cut, v < n) ∧ t.hi ≤ n

def TaskOk (c : Cfg) (n : Nat) (t : Task) : Prop := BaseOk n t ∧ PcOk c n t.pc

theorem BaseOk.push {n : Nat} (h : BaseOk n t) {v : Nat} (hv : v < n) : BaseOk n { t with cut := v :: t.cut } :=
  ⟨List.forall_mem_cons.2 ⟨hv, h.1⟩, h.2⟩

theorem nextScan_ok (c : Cfg) {n : Nat} (h : BaseOk n t) : TaskOk c n (nextScan t) := by
  unfold nextScan
  split_ifs with h1
  · exact ⟨h, Nat.lt_of_lt_of_le h1 h.2⟩
  · exact ⟨h, trivial⟩

theorem popCut_ok (c : Cfg) {n : Nat} (h : BaseOk n t) : TaskOk c n (popCut t) := by
  unfold popCut
  split
  · exact nextScan_ok c h
  · next v rest hc =>
    have := h.1
    rw [hc, List.forall_mem_cons] at this
    exact ⟨⟨this.2, h.2⟩, this.1⟩

theorem postNext_ok (c : Cfg) {n : Nat} (h : BaseOk n t) {mv k : Nat} (hmv : mv < n) :
    TaskOk c n (postNext c t mv k) := by
  unfold postNext
  split_ifs with h1
  · exact ⟨h, hmv, h1⟩
  · exact popCut_ok c h

theorem better_spec {pcount ip : Nat} {best : Option (Nat × Int)} {tgt : Nat} (g : Int)
    (hb : ∀ b, best = some b → b.1 < pcount ∧ b.1 ≠ ip) (ht : tgt < pcount) (hne : tgt ≠ ip) :
    (better best tgt g).1 < pcount ∧ (better best tgt g).1 ≠ ip := by
  unfold better
  split
  · exact ⟨ht, hne⟩
  · next b =>
    split_ifs
    · exact ⟨ht, hne⟩
    · exact hb b rfl

theorem TStep.ok (hg : InRange c.g) (hp2 : 2 ≤ c.partCount) {pc : Pc}
    (hs : TStep c tmax t pc t' ev) (hb : BaseOk c.g.length t) (hpc : PcOk c c.g.length pc) :
    TaskOk c c.g.length t' := by
  cases hs with
  | begin h => exact ⟨hb, Nat.lt_of_lt_of_le h hb.2⟩
  | beginEmpty | finish => exact ⟨hb, trivial⟩
  | scanIsolated | scanLast => exact nextScan_ok c hb
  | scanFirst | scanNext | casIsolated | casFirst | lockRaced | lockNext | lockLast | ownIsolated =>
    exact ⟨hb, hpc⟩
  | scanCut => exact popCut_ok c (hb.push hpc)
  | casFail | unlockPop => exact popCut_ok c hb
  -- `Pc.panic` needs an empty range of target parts
  | ownPanic _ h | postPanic _ h => exact absurd h (nextTarget_zero_ne_none hp2)
  | ownFirst h0 h =>
    obtain ⟨h1, h2, -⟩ := nextTarget_spec h
    exact ⟨hb, hpc, Nat.pos_of_ne_zero h0, h1, h2, nofun⟩
  | gainNext h => exact ⟨hb, hpc.1, h, hpc.2.2⟩
  | gainTarget h0 h =>
    obtain ⟨hv, hk, ht, hne, hbest⟩ := hpc
    obtain ⟨h1, h2, -⟩ := nextTarget_spec h
    refine ⟨hb, hv, Nat.zero_lt_of_lt hk, h1, h2, ?_⟩
    rintro _ ⟨⟩
    exact better_spec _ hbest ht hne
  | gainNone | gainOverCap => exact ⟨hb, hpc.1⟩
  | gainStore _ _ he =>
    obtain ⟨hv, -, ht, hne, hbest⟩ := hpc
    subst he
    exact ⟨hb, hv, better_spec _ hbest ht hne⟩
  | store => exact ⟨hb, hpc.1⟩
  | unlockPost h => exact ⟨hb, hpc, Nat.pos_of_ne_zero h⟩
  | postIsolated | postGainSkip => exact postNext_ok c hb hpc.1
  | postFirst | postGainNext | postGainTarget => exact ⟨hb, hpc⟩
  | postGainPush => exact postNext_ok c (hb.push (nbr_lt hg hpc.2)) hpc.1

end Coupe.ArcSwap
