import CoupeModel.Model.Rcb
import CoupeModel.Proofs.Basic
import CoupeModel.Proofs.Rcb

/-!
# C04 vocabulary and lemmas: balance of every bisection

`wOf`, `achievable`, `bracketsHalf`, `nodeOk`, `balanced` are the *specification* (all
decidable, written over the input points/weights and the member lists of the tree only –
nothing the cut search reports is believed).  The rest of the file is the exact-arithmetic
analysis of the cut search over `Int`: `Lw` (the weight left of a target), `ScanSpec` (what the fold
returns), `Jinv` (the invariant of the interval), `Resolved`, and the `split_*_aux` lemmas that
`Props/C04.lean` and `Proofs/RcbTree.lean` share.
-/

namespace Coupe.Rcb

variable {α : Type} [Coord α]

/-- Total weight of the points `ids`. -/
def wOf (ws : List Int) (ids : List Nat) : Int := (ids.map (fun i => ws.getD i 0)).sum

/-- The low-side weights of all achievable cuts of the node holding the points `ids`,
on axis `coord`: for every coordinate value `v` present, the weight of the points with a
strictly smaller coordinate; and the whole node (cut above everything). -/
def achievable (pts : List (List α)) (ws : List Int) (coord : Nat) (ids : List Nat) : List Int :=
  wOf ws ids :: ids.map (fun i =>
    wOf ws (ids.filter (fun j => Coord.lt (ptKey pts j coord) (ptKey pts i coord))))

/-- `wl` is one of the two achievable low-side weights that bracket `W/2`: it is achievable
and no achievable weight lies strictly between it and the half (so moving the cut past one
more distinct coordinate value, towards the half, crosses the half). -/
def bracketsHalf (A : List Int) (wl W : Int) : Bool :=
  A.contains wl &&
    A.all (fun a => !(decide (wl < a) && decide (2 * a < W)) && !(decide (a < wl) && decide (W < 2 * a)))

/-- C04 at one bisection: low side `lo`, high side `hi`, axis `coord`; `wt wl W` is the
tolerance test `|wl − W/2| ≤ tolerance · W/2`. -/
def nodeOk (wt : Int → Int → Bool) (pts : List (List α)) (ws : List Int) (coord : Nat)
    (lo hi : List Nat) : Bool :=
  let wl := wOf ws lo
  let W := wOf ws (lo ++ hi)
  wt wl W || bracketsHalf (achievable pts ws coord (lo ++ hi)) wl W

/-- C04 at every bisection of a tree. -/
def balanced (wt : Int → Int → Bool) (pts : List (List α)) (ws : List Int) :
    Tree (NodeInfo α) → Bool
  | .empty => true
  | .leaf _ _ => true
  | .node i lo hi =>
    nodeOk wt pts ws i.coord lo.members hi.members && balanced wt pts ws lo && balanced wt pts ws hi

/-- The nodes of a tree in pre-order: `(exit, ok?)`. -/
def verdicts (wt : Int → Int → Bool) (pts : List (List α)) (ws : List Int) :
    Tree (NodeInfo α) → List (Exit × Bool)
  | .empty => []
  | .leaf _ _ => []
  | .node i lo hi =>
    (i.exit, nodeOk wt pts ws i.coord lo.members hi.members) ::
      (verdicts wt pts ws lo ++ verdicts wt pts ws hi)

/-- Run `rcb` (bounding box of the points) and judge every bisection. -/
def judge (wt : Int → Int → Bool) (cfg : Cfg) (iter : Nat) (pts : List (List α)) (ws : List Int) :
    Option (List (Exit × Bool)) :=
  let bb := bbox cfg.dim pts
  match runTree wt cfg iter pts ws bb.1 bb.2 with
  | .ok t => some (verdicts wt pts ws t)
  | _ => none

theorem balanced_iff_verdicts (wt : Int → Int → Bool) (pts : List (List α)) (ws : List Int)
    (t : Tree (NodeInfo α)) :
    balanced wt pts ws t = true ↔ ∀ v ∈ verdicts wt pts ws t, v.2 = true := by
  induction t with
  | empty => simp [balanced, verdicts]
  | leaf p ids => simp [balanced, verdicts]
  | node i lo hi ihl ihh =>
    simp only [balanced, verdicts, Bool.and_eq_true, ihl, ihh, List.mem_cons, List.mem_append]
    constructor
    · rintro ⟨⟨h1, h2⟩, h3⟩ v (rfl | hv | hv)
      · exact h1
      · exact h2 v hv
      · exact h3 v hv
    · intro h
      exact ⟨⟨h _ (Or.inl rfl), fun v hv => h v (Or.inr (Or.inl hv))⟩,
        fun v hv => h v (Or.inr (Or.inr hv))⟩

/-- Exact tolerance tests for the integer witnesses: tolerance 0 and tolerance 1/20. -/
def tolZero (wl sum : Int) : Bool := decide (2 * wl = sum)
def tolTwentieth (wl sum : Int) : Bool := decide (20 * (2 * wl - sum).natAbs ≤ sum)

theorem split_exit_tol_aux {wt : Int → Int → Bool} {coord : Nat} {sum : Int} {items : List (Item α)}
    {fuel it : Nat} {mn mx : α} {prev : Option Nat} {mv : Bool} {out : SplitOut α}
    (h : split wt coord sum items fuel it mn mx prev mv = .ok out) (he : out.exit = .tolerance) :
    wt out.weightLeft sum = true := by
  rcases split_lastRound h with ⟨_, h1, _⟩ | ⟨_, _, _, _, _, _, _, htol⟩
  · rw [h1] at he; cases he
  · exact htol he

theorem int_lt (a b : Int) : Coord.lt a b = decide (a < b) := rfl
theorem int_le (a b : Int) : Coord.le a b = decide (a ≤ b) := rfl
theorem int_sub (a b : Int) : Coord.sub a b = a - b := rfl
theorem int_add (a b : Int) : Coord.add a b = a + b := rfl
theorem int_half (a : Int) : Coord.half a = a / 2 := rfl
theorem int_mid (a b : Int) : Coord.mid a b = (a + b) / 2 := rfl
theorem int_zero : (Coord.zero : Int) = 0 := rfl
theorem int_ltInf (a : Int) : Coord.ltInf a = true := rfl

theorem int_mid_between {a b : Int} (h : a ≤ b) : a ≤ (a + b) / 2 ∧ (a + b) / 2 ≤ b := by omega

/-- Sum of the weights of a list of items. -/
def sumW (l : List (Item Int)) : Int := (l.map (·.w)).sum

/-- Weight strictly left of `v` / left of or at `v`, on axis `coord`. -/
def Lw (items : List (Item Int)) (coord : Nat) (v : Int) : Int :=
  sumW (items.filter (fun x => decide (x.key coord < v)))
def Lle (items : List (Item Int)) (coord : Nat) (v : Int) : Int :=
  sumW (items.filter (fun x => decide (x.key coord ≤ v)))

theorem sumW_cons (x : Item Int) (xs : List (Item Int)) : sumW (x :: xs) = x.w + sumW xs := by
  simp [sumW]

theorem sumW_append (l r : List (Item Int)) : sumW (l ++ r) = sumW l + sumW r := by
  simp [sumW]

theorem sumW_filter_le (items : List (Item Int)) (p q : Item Int → Bool)
    (hw : ∀ x ∈ items, 0 ≤ x.w) (h : ∀ x ∈ items, p x = true → q x = true) :
    sumW (items.filter p) ≤ sumW (items.filter q) := by
  induction items with
  | nil => simp [sumW]
  | cons x xs ih =>
    have ih' := ih (fun y hy => hw y (List.mem_cons_of_mem _ hy))
      (fun y hy => h y (List.mem_cons_of_mem _ hy))
    have hx := hw x (List.mem_cons_self)
    have hpq := h x (List.mem_cons_self)
    simp only [List.filter_cons]
    by_cases hp : p x = true
    · simp only [hp, hpq hp, if_true, sumW_cons]; omega
    · by_cases hq : q x = true
      · simp only [hp, hq, if_true, sumW_cons]; simp; omega
      · simp only [hp, hq]; simpa using ih'

theorem sumW_nonneg {items : List (Item Int)} (hw : ∀ x ∈ items, 0 ≤ x.w) : 0 ≤ sumW items :=
  sum_map_nonneg _ hw

theorem sumW_perm {l l' : List (Item Int)} (h : l.Perm l') : sumW l = sumW l' :=
  perm_sum (h.map _)

theorem Lw_mono (items : List (Item Int)) (coord : Nat) (hw : ∀ x ∈ items, 0 ≤ x.w) (u v : Int)
    (h : u ≤ v) : Lw items coord u ≤ Lw items coord v :=
  sumW_filter_le items _ _ hw (by intro x _ hx; simp at hx ⊢; omega)

theorem lt_of_Lw_lt {items : List (Item Int)} {coord : Nat} (hw : ∀ x ∈ items, 0 ≤ x.w) {u v : Int}
    (h : Lw items coord u < Lw items coord v) : u < v :=
  Int.lt_of_not_ge fun hge => Int.not_le.2 h (Lw_mono items coord hw _ _ hge)

theorem Lw_le_sumW (items : List (Item Int)) (coord : Nat) (hw : ∀ x ∈ items, 0 ≤ x.w) (v : Int) :
    Lw items coord v ≤ sumW items := by
  have := sumW_filter_le items (fun x => decide (x.key coord < v)) (fun _ => true) hw fun _ _ _ => rfl
  rwa [List.filter_eq_self.2 fun _ _ => rfl] at this

/-- What the fold has computed after a prefix `pre` of the items. -/
structure ScanSpec (coord : Nat) (t : Int) (pre : List (Item Int)) (st : Scan Int) : Prop where
  wl : st.wl = Lw pre coord t
  none_all : st.nearest = none → ∀ x ∈ pre, x.key coord < t
  some_min : ∀ i d, st.nearest = some (i, d) → ∃ p, pre[i]? = some p ∧ t ≤ p.key coord ∧
    d = p.key coord - t ∧ ∀ x ∈ pre, t ≤ x.key coord → p.key coord ≤ x.key coord

theorem scanSpec_step (coord : Nat) (t : Int) (pre : List (Item Int)) (st : Scan Int) (x : Item Int)
    (h : ScanSpec coord t pre st) :
    ScanSpec coord t (pre ++ [x]) (scanStep coord t st (x, pre.length)) := by
  obtain ⟨hwl, hnone, hsome⟩ := h
  have hpre : ∀ {i p}, pre[i]? = some p → (pre ++ [x])[i]? = some p := fun hp =>
    (List.getElem?_append_left (List.getElem?_eq_some_iff.1 hp).1).trans hp
  have hmem : ∀ {P : Item Int → Prop}, (∀ y ∈ pre, P y) → P x → ∀ y ∈ pre ++ [x], P y :=
    fun h1 h2 y hy => (List.mem_append.1 hy).elim (h1 y) fun hy => List.mem_singleton.1 hy ▸ h2
  unfold scanStep
  simp only [int_lt, int_sub, int_zero, int_ltInf]
  by_cases hx : x.key coord < t
  · have hx' : x.key coord - t < 0 := Int.sub_neg_of_lt hx
    simp only [hx', decide_true, if_true]
    refine ⟨by simp [Lw, List.filter_append, hx, hwl, sumW], fun hn => hmem (hnone hn) hx,
      fun i d hid => ?_⟩
    obtain ⟨p, hp, h1, h2, h3⟩ := hsome i d hid
    exact ⟨p, hpre hp, h1, h2, hmem h3 fun h => absurd hx (Int.not_lt.2 h)⟩
  · have hx' : ¬ (x.key coord - t < 0) := fun h => hx (Int.lt_of_sub_neg h)
    simp only [hx', decide_false, Bool.false_eq_true, if_false]
    have hfilt : (pre ++ [x]).filter (fun y => decide (y.key coord < t)) =
        pre.filter (fun y => decide (y.key coord < t)) := by
      simp [List.filter_append, hx]
    -- `x` becomes the nearest item if no candidate so far is nearer
    have hnew : (∀ y ∈ pre, t ≤ y.key coord → x.key coord ≤ y.key coord) →
        ScanSpec coord t (pre ++ [x]) { st with nearest := some (pre.length, x.key coord - t) } :=
      fun hmin => by
        refine ⟨by simp [Lw, hfilt, hwl], (fun h => nomatch h), fun i d hid => ?_⟩
        cases hid
        exact ⟨x, by simp, Int.not_lt.1 hx, rfl, hmem hmin fun _ => Int.le_refl _⟩
    cases hn : st.nearest with
    | none =>
      simp only [if_true]
      exact hnew fun y hy hty => absurd (hnone hn y hy) (Int.not_lt.2 hty)
    | some pr =>
      obtain ⟨j, nd⟩ := pr
      obtain ⟨p, hp, h1, h2, h3⟩ := hsome j nd hn
      simp only
      by_cases hd : x.key coord - t < nd
      · simp only [hd, decide_true, if_true]
        exact hnew fun y hy hty => by have := h3 y hy hty; omega
      · simp only [hd, decide_false, Bool.false_eq_true, if_false]
        refine ⟨by simp [Lw, hfilt, hwl], (fun h => by rw [hn] at h; cases h),
          fun i d hid => ?_⟩
        rw [hn] at hid
        cases hid
        exact ⟨p, hpre hp, h1, h2, hmem h3 fun _ => by omega⟩

theorem scanSpec_fold (coord : Nat) (t : Int) : ∀ (l pre : List (Item Int)) (st : Scan Int),
    ScanSpec coord t pre st →
    ScanSpec coord t (pre ++ l) ((l.zipIdx pre.length).foldl (scanStep coord t) st) := by
  intro l
  induction l with
  | nil => intro pre st h; simpa using h
  | cons x xs ih =>
    intro pre st h
    simp only [List.zipIdx_cons, List.foldl_cons]
    have := ih (pre ++ [x]) _ (scanSpec_step coord t pre st x h)
    simpa using this

theorem scan_spec (items : List (Item Int)) (coord : Nat) (t : Int) :
    ScanSpec coord t items (scan items coord t) := by
  have := scanSpec_fold coord t items [] ⟨0, 0, none⟩
    ⟨rfl, (by intro _ x hx; cases hx), (by intro i d h; cases h)⟩
  simpa [scan] using this

/-- `k` lies in the search interval: `[mn, mx)` once `max` has been assigned, `[mn, mx]`
while it still is the bounding-box bound. -/
def InIv (mn mx : Int) (moved : Bool) (k : Int) : Prop :=
  mn ≤ k ∧ (if moved then k < mx else k ≤ mx)

/-- The final interval is resolved: the items inside it carry at most one distinct
coordinate value. -/
def Resolved (items : List (Item Int)) (coord : Nat) (mn mx : Int) (moved : Bool) : Prop :=
  ∀ x ∈ items, ∀ y ∈ items, InIv mn mx moved (x.key coord) → InIv mn mx moved (y.key coord) →
    x.key coord = y.key coord

/-- Executable form of `InIv` / `Resolved` (for the non-vacuity examples and the driver). -/
def inIvB (mn mx : Int) (moved : Bool) (k : Int) : Bool :=
  decide (mn ≤ k) && (if moved then decide (k < mx) else decide (k ≤ mx))

def resolvedB (items : List (Item Int)) (coord : Nat) (mn mx : Int) (moved : Bool) : Bool :=
  items.all (fun x => items.all (fun y =>
    !(inIvB mn mx moved (x.key coord)) || !(inIvB mn mx moved (y.key coord)) ||
      decide (x.key coord = y.key coord)))

theorem inIvB_iff (mn mx : Int) (moved : Bool) (k : Int) :
    inIvB mn mx moved k = true ↔ InIv mn mx moved k := by
  unfold inIvB InIv
  cases moved <;> simp

theorem resolved_all_iff {β : Type} (l : List β) (f : β → Int) (mn mx : Int) (moved : Bool) :
    (l.all fun x => l.all fun y =>
      !(inIvB mn mx moved (f x)) || !(inIvB mn mx moved (f y)) || decide (f x = f y)) = true ↔
    ∀ x ∈ l, ∀ y ∈ l, InIv mn mx moved (f x) → InIv mn mx moved (f y) → f x = f y := by
  simp only [List.all_eq_true, Bool.or_eq_true, Bool.not_eq_true', decide_eq_true_eq,
    ← Bool.not_eq_true, inIvB_iff]
  constructor
  · intro h x hx y hy hxi hyi
    rcases h x hx y hy with (h1 | h1) | h1
    · exact absurd hxi h1
    · exact absurd hyi h1
    · exact h1
  · intro h x hx y hy
    by_cases hxi : InIv mn mx moved (f x)
    · by_cases hyi : InIv mn mx moved (f y)
      · exact .inr (h x hx y hy hxi hyi)
      · exact .inl (.inr hyi)
    · exact .inl (.inl hxi)

theorem resolvedB_iff (items : List (Item Int)) (coord : Nat) (mn mx : Int) (moved : Bool) :
    resolvedB items coord mn mx moved = true ↔ Resolved items coord mn mx moved :=
  resolved_all_iff items (·.key coord) mn mx moved

/-- Run one search and test its result (for `decide`d examples). -/
def checkSplit (wt : Int → Int → Bool) (coord : Nat) (items : List (Item Int)) (fuel : Nat)
    (mn mx : Int) (P : SplitOut Int → Bool) : Bool :=
  match split wt coord (sumW items) items fuel 0 mn mx none false with
  | .ok out => P out
  | _ => false

/-- `split_invariant`: what the loop of `par_rcb_split` maintains about its interval
(`W` = weight being split): the weight strictly left of `min` is at most the half, the
weight left of `max` (strictly left once `max` was assigned) is at least the half. -/
def Jinv (items : List (Item Int)) (coord : Nat) (W mn mx : Int) (moved : Bool) : Prop :=
  mn ≤ mx ∧ 2 * Lw items coord mn ≤ W ∧
    (if moved then W ≤ 2 * Lw items coord mx else W ≤ 2 * Lle items coord mx)

/-- The low side of a successful search weighs `Lw` of the cut value. -/
theorem left_weight (items l r : List (Item Int)) (coord : Nat) (v : Int)
    (hperm : (l ++ r).Perm items) (hl : ∀ x ∈ l, x.key coord < v) (hr : ∀ x ∈ r, ¬ x.key coord < v) :
    sumW l = Lw items coord v := by
  unfold Lw
  rw [← sumW_perm (hperm.filter _), List.filter_append,
    List.filter_eq_self.2 (by intro x hx; simpa using hl x hx),
    List.filter_eq_nil_iff.2 (by intro x hx; simpa using hr x hx), List.append_nil]

/-- Low-side weights of the achievable cuts of a list of items (cf. `achievable`). -/
def achievableItems (items : List (Item Int)) (coord : Nat) : List Int :=
  sumW items :: items.map (fun x => Lw items coord (x.key coord))

theorem mem_achievableItems {items : List (Item Int)} {coord : Nat} {a : Int} :
    a ∈ achievableItems items coord ↔ a = sumW items ∨ ∃ y ∈ items, Lw items coord (y.key coord) = a := by
  simp only [achievableItems, List.mem_cons, List.mem_map]

theorem bracketsHalf_iff (A : List Int) (wl W : Int) :
    bracketsHalf A wl W = true ↔
      wl ∈ A ∧ ∀ a ∈ A, ¬ (wl < a ∧ 2 * a < W) ∧ ¬ (a < wl ∧ W < 2 * a) := by
  simp only [bracketsHalf, Bool.and_eq_true, List.contains_iff_mem, List.all_eq_true,
    Bool.not_eq_true', ← Bool.not_eq_true, decide_eq_true_eq]

theorem InIv.of_le {mn mx : Int} {mv : Bool} {k k' : Int} (h : InIv mn mx mv k') (h1 : mn ≤ k)
    (h2 : k ≤ k') : InIv mn mx mv k := by
  refine ⟨h1, ?_⟩
  have := h.2
  cases mv
  · exact Int.le_trans h2 this
  · exact Int.lt_of_le_of_lt h2 this

theorem InIv.of_lt {mn mx : Int} {mv : Bool} {k : Int} (h1 : mn ≤ k) (h2 : k < mx) :
    InIv mn mx mv k := by
  refine ⟨h1, ?_⟩
  cases mv
  · exact Int.le_of_lt h2
  · exact h2

theorem Lw_le_of_resolved {items : List (Item Int)} {coord : Nat} {mn mx : Int} {mv : Bool}
    (hw : ∀ x ∈ items, 0 ≤ x.w) (hres : Resolved items coord mn mx mv) {v : Int} (hv : v ≤ mx)
    {y : Item Int} (hy : y ∈ items) (hyv : y.key coord < v) :
    Lw items coord (y.key coord) ≤ Lw items coord mn := by
  by_cases hmn : mn ≤ y.key coord
  · have hyin : InIv mn mx mv (y.key coord) := .of_lt hmn (Int.lt_of_lt_of_le hyv hv)
    refine Int.le_of_eq (congrArg sumW (List.filter_congr fun x hx =>
      decide_eq_decide.2 ⟨fun hc => ?_, fun hc => Int.lt_of_lt_of_le hc hmn⟩))
    refine Int.lt_of_not_ge fun hge => ?_
    exact Int.ne_of_lt hc (hres x hx y hy (hyin.of_le hge (Int.le_of_lt hc)) hyin)
  · exact Lw_mono items coord hw _ _ (Int.le_of_lt (Int.not_le.1 hmn))

theorem half_le_of_resolved {items : List (Item Int)} {coord : Nat} {W mn mx : Int} {mv : Bool}
    (hw : ∀ x ∈ items, 0 ≤ x.w) (hJ : Jinv items coord W mn mx mv)
    (hres : Resolved items coord mn mx mv) {p y : Item Int} (hp : p ∈ items) (hy : y ∈ items)
    (hmp : mn ≤ p.key coord) (hpy : p.key coord < y.key coord) :
    W ≤ 2 * Lw items coord (y.key coord) := by
  obtain ⟨_, _, hJ3⟩ := hJ
  have hmy : mn ≤ y.key coord := Int.le_trans hmp (Int.le_of_lt hpy)
  -- `y` lies beyond the interval, or `p` and `y` would be two values inside it
  have hout : ¬ InIv mn mx mv (y.key coord) := fun hyin =>
    Int.ne_of_lt hpy (hres p hp y hy (hyin.of_le hmp (Int.le_of_lt hpy)) hyin)
  cases mv with
  | true =>
    have := Lw_mono items coord hw mx (y.key coord) (Int.not_lt.1 fun hlt => hout ⟨hmy, hlt⟩)
    rw [if_pos rfl] at hJ3
    omega
  | false =>
    have hlt : mx < y.key coord := Int.not_le.1 fun hle => hout ⟨hmy, hle⟩
    have : Lle items coord mx ≤ Lw items coord (y.key coord) :=
      sumW_filter_le items _ _ hw fun x _ hx =>
        decide_eq_true (Int.lt_of_le_of_lt (of_decide_eq_true hx) hlt)
    rw [if_neg Bool.false_ne_true] at hJ3
    omega

/-- `LastRound` in exact arithmetic, `t` the last target: everything, all of it left of `t`; or the
two sides of the nearest item `p` at or right of `t`, with the weight left of `t` reported. -/
def SplitFacts (items : List (Item Int)) (coord : Nat) (sum : Int) (out : SplitOut Int) : Prop :=
  let t := (out.lastMin + out.lastMax) / 2
  (out.exit = .allLeft ∧ out.left = items ∧ out.right = [] ∧ out.weightLeft = sum ∧
    out.splitPos = out.lastMax ∧ (∀ x ∈ items, x.key coord < t)) ∨
  (out.exit ≠ .allLeft ∧ ∃ p ∈ items, t ≤ p.key coord ∧
    (∀ x ∈ items, t ≤ x.key coord → p.key coord ≤ x.key coord) ∧
    (out.left ++ out.right).Perm items ∧
    (∀ x ∈ out.left, x.key coord < p.key coord) ∧
    (∀ x ∈ out.right, ¬ x.key coord < p.key coord) ∧
    out.weightLeft = Lw items coord t ∧ out.splitPos = t)

section SplitRun

variable {wt : Int → Int → Bool} {coord : Nat} {items : List (Item Int)} {fuel it : Nat} {mn mx : Int}
  {prev : Option Nat} {mv : Bool} {out : SplitOut Int}

theorem split_facts {sum : Int} (h : split wt coord sum items fuel it mn mx prev mv = .ok out) :
    SplitFacts items coord sum out := by
  have hs := scan_spec items coord ((out.lastMin + out.lastMax) / 2)
  rcases split_lastRound h with ⟨hn, he, hl, hr, hwl, hsp⟩ | ⟨idx, nd, hn, he, hlr, hwl, hsp, _⟩
  · exact .inl ⟨he, hl, hr, hwl, hsp, hs.none_all hn⟩
  · obtain ⟨p, hp, hpt, _, hpmin⟩ := hs.some_min idx nd hn
    obtain ⟨p', hp', hperm, hl, hr⟩ := reorderSplit_ok intOrderLaws (fun _ _ => trivial) hlr
    rw [hp] at hp'
    cases hp'
    exact .inr ⟨he, p, List.mem_of_getElem? hp, hpt, hpmin, hperm,
      fun x hx => of_decide_eq_true (hl x hx), fun x hx => of_decide_eq_false (hr x hx),
      hwl.trans hs.wl, hsp⟩

/-- `split_invariant` of Props/C04, from any round of the search. -/
theorem split_jinv (hw : ∀ x ∈ items, 0 ≤ x.w) (hJ : Jinv items coord (sumW items) mn mx mv)
    (h : split wt coord (sumW items) items fuel it mn mx prev mv = .ok out) :
    Jinv items coord (sumW items) out.lastMin out.lastMax out.maxMoved := by
  have hW0 := sumW_nonneg hw
  refine (split_ok_inv (I := Jinv items coord (sumW items)) ?_ ?_ hJ h).1
  · -- `max := t`: at least half the weight lies left of `t`
    intro mn mx mv ⟨h1, h2, _⟩ hc
    have hs := scan_spec items coord ((mn + mx) / 2)
    simp only [int_mid] at hc ⊢
    refine ⟨(int_mid_between h1).1, h2, ?_⟩
    rw [if_pos rfl]
    rcases hc with hn | hc
    · rw [show Lw items coord ((mn + mx) / 2) = sumW items from
        congrArg sumW (List.filter_eq_self.2 fun x hx => decide_eq_true (hs.none_all hn x hx))]
      omega
    · rw [hs.wl] at hc; omega
  · -- `min := t`: less than half the weight lies left of `t`
    intro mn mx mv ⟨h1, h2, h3⟩ _ hc
    have hs := scan_spec items coord ((mn + mx) / 2)
    simp only [int_mid] at hc ⊢
    rw [hs.wl] at hc
    exact ⟨(int_mid_between h1).2, by omega, h3⟩

theorem split_reported_weight_aux
    (h : split wt coord (sumW items) items fuel it mn mx prev mv = .ok out) :
    out.weightLeft = sumW out.left ∧ sumW items - out.weightLeft = sumW out.right := by
  rcases split_facts h with ⟨_, h1, h2, h3, _⟩ | ⟨_, p, _, hpt, hpmin, hperm, hl, hr, hwl, _⟩
  · rw [h1, h2, h3]; exact ⟨rfl, Int.sub_self _⟩
  · have e1 := left_weight items out.left out.right coord _ hperm hl hr
    have e2 : Lw items coord ((out.lastMin + out.lastMax) / 2) = Lw items coord (p.key coord) := by
      refine congrArg sumW (List.filter_congr fun x hx =>
        decide_eq_decide.2 ⟨fun hc => by omega, fun hc => ?_⟩)
      exact Int.lt_of_not_ge fun hge => Int.not_le.2 hc (hpmin x hx hge)
    have e3 := sumW_perm hperm
    rw [sumW_append] at e3
    rw [hwl, e2, ← e1]
    exact ⟨rfl, by omega⟩

/-- `split_exit_resolved_partial` of Props/C04.  The items inside the last interval carry one
coordinate value at most, so no achievable weight lies strictly between the weights of its two
ends, and those bracket the half by `Jinv`. -/
theorem split_exit_resolved_aux (hw : ∀ x ∈ items, 0 ≤ x.w)
    (hJ : Jinv items coord (sumW items) mn mx mv)
    (h : split wt coord (sumW items) items fuel it mn mx prev mv = .ok out)
    (hres : Resolved items coord out.lastMin out.lastMax out.maxMoved) :
    bracketsHalf (achievableItems items coord) (sumW out.left) (sumW items) = true := by
  have hJ' := split_jinv hw hJ h
  have hJ1 := hJ'.1
  have hJ2 := hJ'.2.1
  have hW0 := sumW_nonneg hw
  have hbelow : ∀ y ∈ items, y.key coord < (out.lastMin + out.lastMax) / 2 →
      2 * Lw items coord (y.key coord) ≤ sumW items := fun y hy hyt => by
    have := Lw_le_of_resolved hw hres (int_mid_between hJ1).2 hy hyt
    omega
  rw [bracketsHalf_iff]
  rcases split_facts h with ⟨_, h1, _, _, _, hall⟩ | ⟨_, p, hpm, hpt, hpmin, hperm, hl, hr, _⟩
  · rw [h1]
    refine ⟨List.mem_cons_self, fun a ha => ?_⟩
    rcases mem_achievableItems.1 ha with rfl | ⟨y, hy, rfl⟩
    · omega
    · have := Lw_le_sumW items coord hw (y.key coord)
      have := hbelow y hy (hall y hy)
      omega
  · rw [left_weight items out.left out.right coord _ hperm hl hr]
    refine ⟨mem_achievableItems.2 (.inr ⟨p, hpm, rfl⟩), fun a ha => ?_⟩
    have hpW := Lw_le_sumW items coord hw (p.key coord)
    rcases mem_achievableItems.1 ha with rfl | ⟨y, hy, rfl⟩
    · omega
    · constructor
      · -- an achievable weight above the cut is at least the half
        rintro ⟨hlt, h2⟩
        have := half_le_of_resolved hw hJ' hres hpm hy (Int.le_trans (int_mid_between hJ1).1 hpt)
          (lt_of_Lw_lt hw hlt)
        omega
      · -- an achievable weight below the cut is at most the half
        rintro ⟨hlt, h2⟩
        have := hbelow y hy
          (Int.lt_of_not_ge fun hge => Int.not_le.2 (lt_of_Lw_lt hw hlt) (hpmin y hy hge))
        omega

end SplitRun

end Coupe.Rcb
