import CoupeModel.Model.Kk
import CoupeModel.Proofs.Ckk

/-!
Lemmas on the model of `kk.rs`: the two-way loop (an unbranched descent through the search
tree of `Proofs/Ckk.lean`), then the k-way loop, its back-tracking and the spread of the tuples.
-/

namespace Coupe.Kk
open Coupe.Ckk

def SortedInt (l : List Int) : Prop := l.Pairwise (fun x y => y ≤ x)

theorem insInt_eq (v : Int) (l : List Int) : insInt v l = insBy (fun a b => decide (a < b)) v l := by
  induction l with
  | nil => rfl
  | cons x xs ih => simp only [insInt, insBy, ih, decide_eq_true_eq]

theorem perm_insInt (v : Int) (l : List Int) : (insInt v l).Perm (v :: l) :=
  insInt_eq v l ▸ perm_insBy _ v l

theorem mem_insInt {v y : Int} {l : List Int} : y ∈ insInt v l ↔ y = v ∨ y ∈ l :=
  (perm_insInt v l).mem_iff.trans List.mem_cons

theorem length_insInt (v : Int) (l : List Int) : (insInt v l).length = l.length + 1 :=
  (perm_insInt v l).length_eq

theorem sorted_insInt {v : Int} {l : List Int} (h : SortedInt l) : SortedInt (insInt v l) :=
  insInt_eq v l ▸ pairwise_insBy (fun h₁ h₂ => Int.le_trans h₂ h₁)
    (fun _ h => Int.le_of_lt (of_decide_eq_true h)) (fun _ h => Int.not_lt.1 (mt decide_eq_true h)) h

theorem perm_sortInt (l : List Int) : (sortInt l).Perm l := by
  induction l with
  | nil => exact .refl _
  | cons x xs ih => exact (perm_insInt x _).trans (ih.cons x)

theorem sorted_sortInt (l : List Int) : SortedInt (sortInt l) := by
  induction l with
  | nil => exact List.Pairwise.nil
  | cons x xs ih => exact sorted_insInt ih

theorem insInt_of_le {v : Int} {l : List Int} (h : ∀ x ∈ l, x ≤ v) : insInt v l = v :: l := by
  cases l with
  | nil => rfl
  | cons x xs => exact if_neg (Int.not_lt.2 (h x List.mem_cons_self))

/-- The ids only decide the place among equal weights. -/
theorem map_fst_insDesc (e : WI) (l : List WI) (hs : Sorted l) :
    (insDesc e l).map (·.1) = insInt e.1 (l.map (·.1)) := by
  induction l with
  | nil => rfl
  | cons x xs ih =>
    have hs' := List.pairwise_cons.1 hs
    simp only [insDesc, List.map_cons, insInt]
    by_cases hlt : wiLt e x = true
    · rw [if_pos hlt, List.map_cons, ih hs'.2]
      by_cases hv : e.1 < x.1
      · rw [if_pos hv]
      · have hx : x.1 = e.1 := by have := wiLt_true_le hlt; omega
        rw [if_neg hv, hx, insInt_of_le]
        intro y hy
        obtain ⟨z, hz, rfl⟩ := List.mem_map.1 hy
        exact hx ▸ hs'.1 z hz
    · rw [if_neg hlt, if_neg (Int.not_lt.2 (wiLt_false_le hlt))]
      rfl

theorem map_fst_sortDesc_zipIdx (ws : List Int) (n : Nat) :
    (sortDesc (ws.zipIdx n)).map (·.1) = sortInt ws := by
  induction ws generalizing n with
  | nil => rfl
  | cons w ws ih =>
    rw [List.zipIdx_cons, sortDesc, map_fst_insDesc _ _ (sorted_sortDesc _), ih, sortInt]

/-- With at least two numbers the last difference taken is `a - b` with `a ≥ b`. -/
theorem residGo_nonneg (fuel : Nat) (l : List Int) (hs : SortedInt l) (h2 : 2 ≤ l.length)
    (hf : l.length ≤ fuel) : 0 ≤ residGo fuel l := by
  induction fuel generalizing l with
  | zero => omega
  | succ fuel ih =>
    obtain _ | ⟨a, _ | ⟨b, rest⟩⟩ := l
    · cases h2
    · exact absurd h2 (by simp)
    have hs' := List.pairwise_cons.1 hs
    have hba : b ≤ a := hs'.1 b List.mem_cons_self
    cases rest with
    | nil =>
      cases fuel with
      | zero => simp at hf
      | succ fuel => simp only [residGo, insInt]; omega
    | cons c rest =>
      refine ih _ (sorted_insInt (List.pairwise_cons.1 hs'.2).2) ?_ ?_
      · rw [length_insInt]; simp
      · rw [length_insInt]; exact Nat.le_of_succ_le_succ hf

theorem residue_nonneg (ws : List Int) (h2 : 2 ≤ ws.length) : 0 ≤ residue ws := by
  have hl := (perm_sortInt ws).length_eq
  exact residGo_nonneg _ _ (sorted_sortInt ws) (hl ▸ h2) (Nat.le_of_eq hl)

theorem residGo_le (M : Int) (hM : 0 ≤ M) (fuel : Nat) (l : List Int) (hs : SortedInt l)
    (hb : ∀ x ∈ l, 0 ≤ x ∧ x ≤ M) : residGo fuel l ≤ M := by
  induction fuel generalizing l with
  | zero => exact hM
  | succ fuel ih =>
    obtain _ | ⟨a, _ | ⟨b, rest⟩⟩ := l
    · exact hM
    · exact (hb a List.mem_cons_self).2
    have hs' := List.pairwise_cons.1 hs
    have hba : b ≤ a := hs'.1 b List.mem_cons_self
    have ha := hb a List.mem_cons_self
    have hb' := hb b (by simp)
    refine ih _ (sorted_insInt (List.pairwise_cons.1 hs'.2).2) fun x hx => ?_
    rcases mem_insInt.1 hx with rfl | hx
    · omega
    · exact hb x (by simp [hx])

theorem residue_le (M : Int) (hM : 0 ≤ M) (ws : List Int) (hb : ∀ w ∈ ws, 0 ≤ w ∧ w ≤ M) :
    residue ws ≤ M :=
  residGo_le M hM _ _ (sorted_sortInt ws) fun x hx => hb x ((perm_sortInt ws).mem_iff.1 hx)

theorem loop2_spec (L fuel : Nat) (W : List WI) (steps : List Step)
    (hfuel : W.length ≤ fuel) (hne : W ≠ []) (hs : Sorted W) (hnd : (W.map (·.2)).Nodup)
    (hid : ∀ x ∈ W, x.2 < L) :
    ∃ e new, loop2 fuel W steps = some ([e], steps ++ new) ∧ e.2 < L ∧
      e.1 = residGo fuel (W.map (·.1)) ∧
      ∀ q0, q0.length = L → Asg [e] q0 → ∃ q, unwind new q0 = some q ∧ q.length = L ∧ Asg W q ∧
        ssum (sg q) W = ssum (sg q0) [e] := by
  induction fuel generalizing W steps with
  | zero => exact absurd (List.length_eq_zero_iff.1 (Nat.le_zero.1 hfuel)) hne
  | succ fuel ih =>
    obtain _ | ⟨⟨aw, ai⟩, _ | ⟨⟨bw, bi⟩, rest⟩⟩ := W
    · exact absurd rfl hne
    · exact ⟨_, [], by rw [List.append_nil]; rfl, hid _ List.mem_cons_self, rfl,
        fun q0 hl ha => ⟨q0, rfl, hl, ha, rfl⟩⟩
    have hrest := (List.pairwise_cons.1 (List.pairwise_cons.1 hs).2).2
    obtain ⟨e, new, hloop, he, hval, hundo⟩ := ih (insDesc (aw - bw, ai) rest)
      (steps ++ [⟨ai, bi, true⟩]) (by rw [length_insDesc]; exact Nat.le_of_succ_le_succ hfuel)
      (insDesc_ne_nil _ _) (sorted_insDesc hrest) (nodup_step _ hnd) (ids_lt_step _ hid)
    refine ⟨e, ⟨ai, bi, true⟩ :: new, ?_, he, ?_, fun q0 hl ha => ?_⟩
    · rw [loop2, hloop, List.append_assoc]; rfl
    · rw [hval, map_fst_insDesc _ _ hrest]; rfl
    · obtain ⟨q1, hq1, hl1, ha1, hs1⟩ := hundo q0 hl ha
      obtain ⟨q, hq, hlq, haq, hsq⟩ := undo_step aw bw true hl1 ha1 (hid (bw, bi) (by simp))
      refine ⟨q, by rw [unwind_cons, hq1]; exact hq, hlq, haq, ?_⟩
      rw [hsq hnd, ← hs1, ssum_insDesc]
      rfl

theorem runWith_len {sort : Row → Row} {p : List Nat} {ws : List Int} {k : Nat} {ids : List Nat}
    (h : runWith sort p ws k = .ok ids) : ws.length = p.length := by
  refine Classical.byContradiction fun hne => ?_
  simp [runWith, hne] at h

theorem runWith_small (sort : Row → Row) {p : List Nat} {ws : List Int} {k : Nat}
    (hlen : ws.length = p.length) (h : k < 2 ∨ p.length < 2) :
    runWith sort p ws k = .ok (p.map fun _ => 0) := by
  simp [runWith, hlen, h]

theorem runWith_two (sort : Row → Row) {p : List Nat} {ws : List Int} {q : List Nat}
    (hlen : ws.length = p.length) (h2 : 2 ≤ p.length) (hq : kkBipart p ws = some q) :
    runWith sort p ws 2 = .ok q := by
  simp [runWith, hlen, Nat.not_lt.2 h2, hq]

theorem runWith_general (sort : Row → Row) {p : List Nat} {ws : List Int} {k : Nat} {q : List Nat}
    (hlen : ws.length = p.length) (hk : 3 ≤ k) (h2 : 2 ≤ p.length)
    (hq : kkGeneral sort p ws k = some q) : runWith sort p ws k = .ok q := by
  have h1 : ¬ k < 2 := by omega
  have h3 : k ≠ 2 := by omega
  simp [runWith, hlen, Nat.not_lt.2 h2, h1, h3, hq]

theorem runWith_two_spec (sort : Row → Row) (p : List Nat) (ws : List Int)
    (hlen : ws.length = p.length) (hn : 2 ≤ p.length) :
    ∃ q, runWith sort p ws 2 = .ok q ∧ q.length = p.length ∧ (∀ i ∈ q, i ≤ 1) ∧
      load ws q 0 - load ws q 1 = residue ws := by
  have hne : ws ≠ [] := List.ne_nil_of_length_pos (hlen ▸ Nat.lt_of_lt_of_le Nat.zero_lt_two hn)
  obtain ⟨⟨ew, ei⟩, new, hloop, he, hval, hundo⟩ := loop2_spec p.length _ _ [] (Nat.le_refl _)
    (init_ne_nil hne) (sorted_sortDesc _) (init_nodup ws) fun x hx => hlen ▸ init_id_lt ws x hx
  obtain ⟨q, hq, hl, ha, hsum⟩ := hundo _ (List.length_set ..) (asg_leaf ew he)
  have hl' : q.length = ws.length := hl.trans hlen.symm
  have h01 := init_asg_le_one ws q hl' ha
  refine ⟨q, runWith_two sort hlen hn ?_, hl, h01, ?_⟩
  · simp only [kkBipart, hloop, List.nil_append, build_eq, if_pos he]
    exact hq
  · rw [← ssum_sg_zipIdx ws q hl' h01, ← ssum_sortDesc, hsum, ssum_leaf ew he]
    refine hval.trans ?_
    rw [map_fst_sortDesc_zipIdx, length_sortDesc, List.length_zipIdx]
    rfl

/-! k-way: under the slot assignment `q` a row `r` contributes `wsum (asg q) j r` to part `j`, and a
heap `H` contributes `wsum (asg q) j H.flatten`. -/

/-- Contract of `sort_unstable_by` on the weight: a descending permutation. -/
def SortOk (sort : Row → Row) : Prop := ∀ l, (sort l).Perm l ∧ Sorted (sort l)

def HeapOk (k L : Nat) (H : List Row) : Prop :=
  (∀ r ∈ H, r.length = k ∧ ∀ s ∈ r, s.2 < L) ∧ (H.flatten.map (·.2)).Nodup

/-- `q` assigns the `k` slots of every row to the `k` parts bijectively. -/
def Good (k L : Nat) (H : List Row) (q : List Nat) : Prop :=
  q.length = L ∧ ∀ r ∈ H, ((r.map (·.2)).map (asg q)).Perm (List.range k)

theorem wsum_shift (f : Nat → Nat) (j : Nat) (m : Int) (r : Row) :
    wsum f j (r.map fun x => (x.1 - m, x.2)) =
      wsum f j r - m * (List.count j ((r.map (·.2)).map f)) := by
  induction r with
  | nil => simp [wsum]
  | cons s r ih =>
    simp only [List.map_cons, wsum_cons, ih, List.count_cons]
    by_cases h : f s.2 = j
    · simp only [h, if_true, beq_self_eq_true]
      push_cast
      rw [Int.mul_add]
      omega
    · simp only [h, if_false, beq_eq_false_iff_ne.2 h, Bool.false_eq_true, Nat.add_zero]
      omega

theorem wsum_shift_bij {f : Nat → Nat} {j k : Nat} (m : Int) {r : Row} (hj : j < k)
    (h : ((r.map (·.2)).map f).Perm (List.range k)) :
    wsum f j (r.map fun x => (x.1 - m, x.2)) = wsum f j r - m := by
  rw [wsum_shift, h.count_eq, List.count_range, if_pos hj]
  simp

theorem wsum_zip {f g : Nat → Nat} (j : Nat) (a b : Row) (hlen : a.length = b.length)
    (ha : (a.map (·.2)).map g = (a.map (·.2)).map f)
    (hb : (b.map (·.2)).map g = (a.map (·.2)).map f) :
    wsum f j ((a.zip b).map fun xy => (xy.1.1 + xy.2.1, xy.1.2)) = wsum g j a + wsum g j b := by
  induction a generalizing b with
  | nil => obtain rfl := List.length_eq_zero_iff.1 hlen.symm; rfl
  | cons x a ih =>
    match b, hlen with
    | y :: b, hlen =>
      simp only [List.map_cons, List.cons.injEq] at ha hb
      simp only [List.zip_cons_cons, List.map_cons, wsum_cons, ha.1, hb.1,
        ih b (Nat.succ.inj hlen) ha.2 hb.2]
      split <;> omega

theorem wsum_range' (f : Nat → Nat) (r : Row) (n : Nat)
    (h : (r.map (·.2)).map f = List.range' n r.length) :
    ∀ i (hi : i < r.length), wsum f (i + n) r = r[i].1 := by
  induction r generalizing n with
  | nil => intro i hi; simp at hi
  | cons s r ih =>
    rw [List.map_cons, List.map_cons, List.length_cons, List.range'_succ, List.cons.injEq] at h
    intro i hi
    cases i with
    | zero =>
      rw [Nat.zero_add, wsum_cons, h.1, if_pos rfl, wsum_eq_zero, Int.add_zero]
      · rfl
      · intro t ht hft
        have : f t.2 ∈ List.range' (n + 1) r.length :=
          h.2 ▸ List.mem_map_of_mem (List.mem_map_of_mem (f := (·.2)) ht)
        have := List.mem_range'_1.1 this
        omega
    | succ i =>
      rw [wsum_cons, h.1, if_neg (by omega), Int.zero_add, Nat.add_right_comm]
      exact ih (n + 1) h.2 i (Nat.lt_of_succ_lt_succ hi)

theorem good_lt {k L : Nat} {H : List Row} {q : List Nat} (g : Good k L H q) {r : Row}
    (hr : r ∈ H) {s : WI} (hs : s ∈ r) : asg q s.2 < k :=
  List.mem_range.1 ((g.2 r hr).mem_iff.1
    (List.mem_map_of_mem (List.mem_map_of_mem (f := (·.2)) hs)))

theorem insRow_eq (e : Row) (H : List Row) : insRow e H = insBy rowLt e H := by
  induction H with
  | nil => rfl
  | cons x xs ih => simp only [insRow, insBy, ih]

theorem perm_insRow (e : Row) (H : List Row) : (insRow e H).Perm (e :: H) :=
  insRow_eq e H ▸ perm_insBy rowLt e H

theorem perm_sortRows (H : List Row) : (sortRows H).Perm H := by
  induction H with
  | nil => exact .refl _
  | cons x xs ih => exact (perm_insRow x _).trans (ih.cons x)

theorem heapOk_perm {k L : Nat} {H₁ H₂ : List Row} (h : H₁.Perm H₂) (ok : HeapOk k L H₂) :
    HeapOk k L H₁ :=
  ⟨fun r hr => ok.1 r (h.mem_iff.1 hr), (h.flatten.map _).nodup_iff.2 ok.2⟩

theorem good_perm {k L : Nat} {H₁ H₂ : List Row} {q : List Nat} (h : H₁.Perm H₂)
    (g : Good k L H₂ q) : Good k L H₁ q :=
  ⟨g.1, fun r hr => g.2 r (h.mem_iff.1 hr)⟩

theorem copyTuples_nil (q : List Nat) : copyTuples q [] = some q := rfl

theorem copyTuples_cons (q : List Nat) (t : Nat × Nat) (ts : List (Nat × Nat)) :
    copyTuples q (t :: ts) = (copyStep q t).bind fun q1 => copyTuples q1 ts := by
  simp only [copyTuples, List.foldlM_cons]
  rfl

theorem copyStep_eq {q : List Nat} {t : Nat × Nat} (ha : t.1 < q.length) (hb : t.2 < q.length) :
    copyStep q t = some (q.set t.2 (asg q t.1)) := by
  simp [copyStep, setChecked, asg, ha, hb]

theorem copyTuples_zip (q : List Nat) (as bs : List Nat) (hlen : as.length = bs.length)
    (ha : ∀ i ∈ as, i < q.length) (hb : ∀ i ∈ bs, i < q.length)
    (hdisj : ∀ i ∈ as, i ∉ bs) (hnd : bs.Nodup) :
    ∃ q', copyTuples q (as.zip bs) = some q' ∧ q'.length = q.length ∧
      bs.map (asg q') = as.map (asg q) ∧ ∀ i, i ∉ bs → asg q' i = asg q i := by
  induction as generalizing bs q with
  | nil =>
    obtain rfl := List.length_eq_zero_iff.1 hlen.symm
    exact ⟨q, rfl, rfl, rfl, fun _ _ => rfl⟩
  | cons a as ih =>
    match bs, hlen with
    | b :: bs, hlen =>
      have htb := hb b List.mem_cons_self
      rw [List.nodup_cons] at hnd
      obtain ⟨q', hq', hl', hcopy, hrest⟩ := ih (q.set b (asg q a)) bs (Nat.succ.inj hlen)
        (fun i hi => by rw [List.length_set]; exact ha i (List.mem_cons_of_mem _ hi))
        (fun i hi => by rw [List.length_set]; exact hb i (List.mem_cons_of_mem _ hi))
        (fun i hi h => hdisj i (List.mem_cons_of_mem _ hi) (List.mem_cons_of_mem _ h)) hnd.2
      refine ⟨q', ?_, by rw [hl', List.length_set], ?_, fun i hi => ?_⟩
      · rw [List.zip_cons_cons, copyTuples_cons, copyStep_eq (ha a List.mem_cons_self) htb,
          Option.bind_some, hq']
      · rw [List.map_cons, List.map_cons, hcopy, hrest b hnd.1, asg_set _ _ htb, if_pos rfl,
          List.map_congr_left fun i hi => by
            rw [asg_set _ _ htb, if_neg fun (h : b = i) =>
              hdisj i (List.mem_cons_of_mem _ hi) (h ▸ List.mem_cons_self)]]
      · rw [hrest i fun h => hi (List.mem_cons_of_mem _ h), asg_set _ _ htb,
          if_neg fun (h : b = i) => hi (h ▸ List.mem_cons_self)]

theorem placeFinal_spec (r : Row) (n : Nat) (q : List Nat)
    (hid : ∀ s ∈ r, s.2 < q.length) (hnd : (r.map (·.2)).Nodup) :
    ∃ q', (r.zipIdx n).foldlM (fun q wi => setChecked q wi.1.2 wi.2) q = some q' ∧
      q'.length = q.length ∧ (r.map (·.2)).map (asg q') = List.range' n r.length ∧
      (∀ i, i ∉ r.map (·.2) → asg q' i = asg q i) := by
  induction r generalizing q n with
  | nil => exact ⟨q, rfl, rfl, rfl, fun _ _ => rfl⟩
  | cons s r ih =>
    have hs := hid s List.mem_cons_self
    rw [List.map_cons, List.nodup_cons] at hnd
    obtain ⟨q', hq', hl', hmap, hrest⟩ := ih (n + 1) (q.set s.2 n)
      (fun u hu => by simpa using hid u (by simp [hu])) hnd.2
    refine ⟨q', ?_, by simpa using hl', ?_, ?_⟩
    · rw [List.zipIdx_cons, List.foldlM_cons]
      simp only [setChecked, hs, if_true]
      exact hq'
    · rw [List.map_cons, List.map_cons, hmap, hrest _ hnd.1, asg_set _ _ hs, if_pos rfl,
        List.length_cons, List.range'_succ]
    · intro i hi
      simp only [List.map_cons, List.mem_cons, not_or] at hi
      rw [hrest i hi.2, asg_set _ _ hs, if_neg fun h => hi.1 h.symm]

theorem combine_ne_none {sort : Row → Row} (hsort : SortOk sort) {k : Nat} (hk : 0 < k)
    {a b : Row} (hla : a.length = k) (hlb : b.length = k) : combine sort a b ≠ none := by
  intro h
  simp only [combine] at h
  split at h
  · next hl =>
    have hp := (hsort ((a.zip b.reverse).map fun xy => (xy.1.1 + xy.2.1, xy.1.2))).1.length_eq
    rw [List.getLast?_eq_none_iff.1 hl] at hp
    simp [hla, hlb] at hp
    omega
  · cases h

theorem combine_spec {sort : Row → Row} (hsort : SortOk sort) {a b e : Row}
    {t : List (Nat × Nat)} (hc : combine sort a b = some (e, t)) :
    ∃ es m, e = es.map (fun x => (x.1 - m.1, x.2)) ∧
      t = (a.map (·.2)).zip (b.reverse.map (·.2)) ∧
      es.Perm ((a.zip b.reverse).map fun xy => (xy.1.1 + xy.2.1, xy.1.2)) ∧ Sorted es ∧
      es.getLast? = some m := by
  simp only [combine] at hc
  split at hc
  · cases hc
  · next m hm =>
    cases hc
    exact ⟨_, m, rfl, List.zip_map.symm, (hsort _).1, (hsort _).2, hm⟩

theorem sorted_last_min {l : Row} {m : WI} (hs : Sorted l) (h : l.getLast? = some m) :
    ∀ u ∈ l, m.1 ≤ u.1 := by
  obtain ⟨ys, rfl⟩ := List.getLast?_eq_some_iff.1 h
  intro u hu
  rcases List.mem_append.1 hu with hu | hu
  · exact (List.pairwise_append.1 hs).2.2 u hu m List.mem_cons_self
  · rw [List.mem_singleton.1 hu]; exact Int.le_refl _

theorem ids_shift (m : Int) (r : Row) : (r.map fun x => (x.1 - m, x.2)).map (·.2) = r.map (·.2) := by
  rw [List.map_map]
  rfl

theorem ids_combine {sort : Row → Row} (hsort : SortOk sort) {k : Nat} {a b e : Row}
    {t : List (Nat × Nat)} (hla : a.length = k) (hlb : b.length = k)
    (hc : combine sort a b = some (e, t)) : (e.map (·.2)).Perm (a.map (·.2)) := by
  obtain ⟨es, m, rfl, -, hperm, -, -⟩ := combine_spec hsort hc
  have hz : (a.zip b.reverse).map (·.1) = a := List.map_fst_zip (by simp [hla, hlb])
  rw [ids_shift]
  refine (hperm.map (·.2)).trans ?_
  rw [List.map_map, ← hz, List.map_map, hz]
  exact .refl _

theorem heapOk_step {sort : Row → Row} (hsort : SortOk sort) {k L : Nat} {a b : Row}
    {rest : List Row} {e : Row} {t : List (Nat × Nat)} (ok : HeapOk k L (a :: b :: rest))
    (hc : combine sort a b = some (e, t)) : HeapOk k L (insRow e rest) := by
  obtain ⟨hla, ida⟩ := ok.1 a List.mem_cons_self
  have hE := ids_combine hsort hla (ok.1 b (by simp)).1 hc
  refine heapOk_perm (perm_insRow e rest) ⟨fun r hr => ?_, ?_⟩
  · rcases List.mem_cons.1 hr with rfl | hr
    · refine ⟨by simpa [hla] using hE.length_eq, fun s hs => ?_⟩
      obtain ⟨x, hx, hxs⟩ := List.mem_map.1 (hE.mem_iff.1 (List.mem_map_of_mem hs))
      exact hxs ▸ ida x hx
    · exact ok.1 r (by simp [hr])
  · have hnd := ok.2
    simp only [List.flatten_cons, List.map_append] at hnd ⊢
    exact (hE.append_right _).nodup_iff.2
      (hnd.sublist ((List.sublist_append_right _ _).append_left _))

/-- `m` is the minimum that `combine` subtracted: undoing the iteration gives it back to every
part. -/
theorem step_back {sort : Row → Row} (hsort : SortOk sort) {k L : Nat}
    {a b : Row} {rest : List Row} {e : Row} {t : List (Nat × Nat)}
    (ok : HeapOk k L (a :: b :: rest)) (hc : combine sort a b = some (e, t)) :
    ∃ m : Int, ∀ q1, Good k L (insRow e rest) q1 →
      ∃ q2, copyTuples q1 t = some q2 ∧ Good k L (a :: b :: rest) q2 ∧
        ∀ j < k, wsum (asg q2) j (a :: b :: rest).flatten
          = wsum (asg q1) j (insRow e rest).flatten + m := by
  obtain ⟨hrows, hnd⟩ := ok
  obtain ⟨hla, ida⟩ := hrows a List.mem_cons_self
  obtain ⟨hlb, idb⟩ := hrows b (by simp)
  have hE := ids_combine hsort hla hlb hc
  obtain ⟨es, m, rfl, rfl, hperm, -, -⟩ := combine_spec hsort hc
  have hrev := (List.reverse_perm b).map (·.2)
  simp only [List.flatten_cons, List.map_append] at hnd
  rw [List.nodup_append, List.nodup_append] at hnd
  obtain ⟨-, ⟨ndB, -, disBR⟩, disA⟩ := hnd
  refine ⟨m.1, fun q1 g1 => ?_⟩
  have gE := good_perm (perm_insRow _ rest).symm g1
  obtain ⟨q2, hq2, hl2, hcopy, hkeep⟩ := copyTuples_zip q1 (a.map (·.2)) (b.reverse.map (·.2))
    (by simp [hla, hlb])
    (fun i hi => by obtain ⟨s, hs, rfl⟩ := List.mem_map.1 hi; exact gE.1 ▸ ida s hs)
    (fun i hi => by
      obtain ⟨s, hs, rfl⟩ := List.mem_map.1 (hrev.mem_iff.1 hi); exact gE.1 ▸ idb s hs)
    (fun i hi hb => disA i hi i (List.mem_append_left _ (hrev.mem_iff.1 hb)) rfl)
    (hrev.nodup_iff.2 ndB)
  have keepA : (a.map (·.2)).map (asg q2) = (a.map (·.2)).map (asg q1) :=
    List.map_congr_left fun i hi => hkeep i fun hb =>
      disA i hi i (List.mem_append_left _ (hrev.mem_iff.1 hb)) rfl
  have keepR : ∀ i ∈ rest.flatten.map (·.2), asg q2 i = asg q1 i := fun i hi => hkeep i fun hb =>
    disBR _ (hrev.mem_iff.1 hb) _ hi rfl
  -- the row `a` under `q1` is a bijection, because the new row is
  have hA1 : ((a.map (·.2)).map (asg q1)).Perm (List.range k) :=
    (hE.map (asg q1)).symm.trans (gE.2 _ List.mem_cons_self)
  have hEs : ((es.map (·.2)).map (asg q1)).Perm (List.range k) :=
    ids_shift m.1 es ▸ gE.2 _ List.mem_cons_self
  refine ⟨q2, hq2, ⟨hl2.trans gE.1, fun r hr => ?_⟩, fun j hj => ?_⟩
  · rcases List.mem_cons.1 hr with rfl | hr
    · exact keepA ▸ hA1
    rcases List.mem_cons.1 hr with rfl | hr
    · exact ((hrev.map (asg q2)).symm.trans (hcopy ▸ .refl _)).trans hA1
    · rw [List.map_congr_left fun i hi => keepR i (by
        obtain ⟨s, hs, rfl⟩ := List.mem_map.1 hi
        exact List.mem_map_of_mem (List.mem_flatten.2 ⟨r, hr, hs⟩))]
      exact gE.2 r (List.mem_cons_of_mem _ hr)
  · have e2 : wsum (asg q2) j rest.flatten = wsum (asg q1) j rest.flatten :=
      wsum_congr j fun s hs => keepR _ (List.mem_map_of_mem hs)
    rw [wsum_perm (asg q1) j (perm_insRow _ rest).flatten]
    simp only [List.flatten_cons, wsum_append]
    rw [wsum_shift_bij m.1 hj hEs, wsum_perm _ j hperm,
      wsum_zip j a b.reverse (by simp [hla, hlb]) keepA hcopy, wsum_perm _ j (List.reverse_perm b),
      e2, Int.add_right_comm, Int.sub_add_cancel, Int.add_assoc]

/-- A row is descending with all values in `[0, M]`. -/
def ValOk (M : Int) (r : Row) : Prop := Sorted r ∧ ∀ s ∈ r, 0 ≤ s.1 ∧ s.1 ≤ M

theorem pairwise_zip {α β : Type} {R : α → α → Prop} {S : β → β → Prop} {l₁ : List α}
    {l₂ : List β} (h₁ : l₁.Pairwise R) (h₂ : l₂.Pairwise S) :
    (l₁.zip l₂).Pairwise (fun x y => R x.1 y.1 ∧ S x.2 y.2) := by
  induction l₁ generalizing l₂ with
  | nil => exact List.Pairwise.nil
  | cons x xs ih =>
    cases l₂ with
    | nil => exact List.Pairwise.nil
    | cons y ys =>
      rw [List.pairwise_cons] at h₁ h₂
      refine List.pairwise_cons.2 ⟨fun xy hxy => ?_, ih h₁.2 h₂.2⟩
      have := List.of_mem_zip (a := xy.1) (b := xy.2) hxy
      exact ⟨h₁.1 _ this.1, h₂.1 _ this.2⟩

/-- The spread of `a_i + b_{k-1-i}` is at most the larger spread of `a`, `b`;
after subtracting the minimum all values are again in `[0, M]`. -/
theorem combine_val {sort : Row → Row} (hsort : SortOk sort) {M : Int}
    {a b e : Row} {t : List (Nat × Nat)}
    (va : ValOk M a) (vb : ValOk M b) (hc : combine sort a b = some (e, t)) : ValOk M e := by
  obtain ⟨es, m, rfl, -, hperm, hsorted, hlast⟩ := combine_spec hsort hc
  -- along the zip the first components descend and the second ascend
  have hpw := pairwise_zip (R := fun x y : WI => y.1 ≤ x.1) (S := fun x y : WI => x.1 ≤ y.1)
    va.1 (List.pairwise_reverse.2 vb.1)
  have hcmp := List.Pairwise.forall_of_forall_of_flip
    (R := fun x y : WI × WI => (y.1.1 ≤ x.1.1 ∧ x.2.1 ≤ y.2.1) ∨ (x.1.1 ≤ y.1.1 ∧ y.2.1 ≤ x.2.1))
    (fun _ _ => .inl ⟨Int.le_refl _, Int.le_refl _⟩) (hpw.imp .inl) (hpw.imp .inr)
  have spread : ∀ u ∈ es, ∀ v ∈ es, u.1 - v.1 ≤ M := by
    intro u hu v hv
    obtain ⟨x, hx, rfl⟩ := List.mem_map.1 (hperm.mem_iff.1 hu)
    obtain ⟨y, hy, rfl⟩ := List.mem_map.1 (hperm.mem_iff.1 hv)
    have mx := List.of_mem_zip (a := x.1) (b := x.2) hx
    have my := List.of_mem_zip (a := y.1) (b := y.2) hy
    have bx1 := va.2 _ mx.1
    have bx2 := vb.2 _ (List.mem_reverse.1 mx.2)
    have by1 := va.2 _ my.1
    have by2 := vb.2 _ (List.mem_reverse.1 my.2)
    rcases hcmp hx hy with h | h <;> simp only <;> omega
  have hm : m ∈ es := List.mem_of_getLast? hlast
  have hmin := sorted_last_min hsorted hlast
  refine ⟨hsorted.map _ fun x y hxy => by simp only; omega, fun s hs => ?_⟩
  obtain ⟨u, hu, rfl⟩ := List.mem_map.1 hs
  have := hmin u hu
  have := spread u hu m hm
  simp only
  omega

theorem loopK_spec {sort : Row → Row} (hsort : SortOk sort) {k L : Nat} (hk : 0 < k)
    (fuel : Nat) (H : List Row) (opp : List (List (Nat × Nat)))
    (hfuel : H.length ≤ fuel) (hne : H ≠ []) (ok : HeapOk k L H) :
    ∃ final new, loopK sort fuel H opp = some ([final], new ++ opp) ∧ HeapOk k L [final] ∧
      (∀ M, (∀ r ∈ H, ValOk M r) → ValOk M final) ∧
      ∀ q0, Good k L [final] q0 → ∃ q c, new.foldlM copyTuples q0 = some q ∧ Good k L H q ∧
        ∀ j < k, wsum (asg q) j H.flatten = wsum (asg q0) j [final].flatten + c := by
  induction fuel generalizing H opp with
  | zero => exact absurd (List.length_eq_zero_iff.1 (Nat.le_zero.1 hfuel)) hne
  | succ fuel ih =>
    obtain _ | ⟨a, _ | ⟨b, rest⟩⟩ := H
    · exact absurd rfl hne
    · exact ⟨a, [], rfl, ok, fun M hv => hv a List.mem_cons_self,
        fun q0 g0 => ⟨q0, 0, rfl, g0, fun j _ => (Int.add_zero _).symm⟩⟩
    obtain ⟨⟨e, t⟩, hc⟩ := Option.ne_none_iff_exists'.1
      (combine_ne_none hsort hk (ok.1 a List.mem_cons_self).1 (ok.1 b (by simp)).1)
    obtain ⟨m, hback⟩ := step_back hsort ok hc
    obtain ⟨final, new, hloop, okF, hval, hundo⟩ := ih (insRow e rest) (t :: opp)
      (by rw [(perm_insRow e rest).length_eq]; exact Nat.le_of_succ_le_succ hfuel)
      (fun h => by simpa [h] using (perm_insRow e rest).length_eq)
      (heapOk_step hsort ok hc)
    refine ⟨final, new ++ [t], ?_, okF, fun M hv => hval M fun r hr => ?_, fun q0 g0 => ?_⟩
    · simp only [loopK, hc, hloop, List.append_assoc, List.cons_append, List.nil_append]
    · rcases List.mem_cons.1 ((perm_insRow e rest).mem_iff.1 hr) with rfl | hr
      · exact combine_val hsort (hv a List.mem_cons_self) (hv b (by simp)) hc
      · exact hv r (by simp [hr])
    · obtain ⟨q1, c, hq1, g1, hsum1⟩ := hundo q0 g0
      obtain ⟨q2, hq2, g2, hsum2⟩ := hback q1 g1
      refine ⟨q2, c + m, ?_, g2, fun j hj => ?_⟩
      · simp only [List.foldlM_append, hq1, List.foldlM_cons, List.foldlM_nil, Option.bind_eq_bind,
          Option.bind_some, hq2, Option.pure_def]
      · rw [hsum2 j hj, hsum1 j hj, Int.add_assoc]

/-- The rows before `collect::<BinaryHeap<_>>()`. -/
def rows0 (n k : Nat) (ws : List Int) : List Row :=
  ws.zipIdx.map fun wi => initRow n k wi.1 wi.2

theorem slot0_mem (n : Nat) {k : Nat} (hk : 0 < k) (w : Int) (id : Nat) :
    (w, id) ∈ initRow n k w id :=
  List.mem_map.2 ⟨0, List.mem_range.2 hk, by simp⟩

theorem mem_rows0 (n k : Nat) (ws : List Int) {t : Nat} (h : t < ws.length) :
    initRow n k ws[t] t ∈ rows0 n k ws :=
  List.mem_map.2 ⟨(ws[t], t), List.mem_zipIdx_iff_getElem?.2 (by simp [h]), rfl⟩

theorem mem_initRow {n k : Nat} {w : Int} {id : Nat} {s : WI} (h : s ∈ initRow n k w id) :
    ∃ p, p < k ∧ s = (if p = 0 then w else 0, n * p + id) := by
  obtain ⟨p, hp, rfl⟩ := List.mem_map.1 h
  exact ⟨p, List.mem_range.1 hp, rfl⟩

/-- Only slot `0` of an initial row weighs anything, and its id is the element's index. -/
theorem wsum_initRow (f : Nat → Nat) (j n k : Nat) (hk : 0 < k) (w : Int) (id : Nat) :
    wsum f j (initRow n k w id) = if f id = j then w else 0 := by
  obtain ⟨k', rfl⟩ : ∃ k', k = k' + 1 := ⟨k - 1, by omega⟩
  simp only [initRow, List.range_succ_eq_map, List.map_cons, wsum_cons, if_true, Nat.mul_zero,
    Nat.zero_add]
  rw [wsum_eq_zero, Int.add_zero]
  intro s hs
  simp only [List.map_map, List.mem_map, Function.comp] at hs
  obtain ⟨p, _, rfl⟩ := hs
  simp

theorem wsum_rows (f : Nat → Nat) (j n k : Nat) (hk : 0 < k) (l : List WI) :
    wsum f j (l.map fun wi => initRow n k wi.1 wi.2).flatten = wsum f j l := by
  induction l with
  | nil => rfl
  | cons x l ih => rw [List.map_cons, List.flatten_cons, wsum_append, ih, wsum_initRow f j n k hk]; rfl

theorem heapOk_rows0 (k : Nat) (ws : List Int) :
    HeapOk k (k * ws.length) (rows0 ws.length k ws) := by
  have hid : ∀ wi ∈ ws.zipIdx, wi.2 < ws.length := fun wi hwi => by
    have := List.snd_lt_of_mem_zipIdx hwi
    omega
  refine ⟨fun r hr => ?_, ?_⟩
  · obtain ⟨wi, hwi, rfl⟩ := List.mem_map.1 hr
    refine ⟨by simp [initRow], fun s hs => ?_⟩
    obtain ⟨p, hp, rfl⟩ := mem_initRow hs
    have : ws.length * (p + 1) ≤ ws.length * k := Nat.mul_le_mul_left _ hp
    rw [Nat.mul_succ] at this
    rw [Nat.mul_comm k]
    have := hid wi hwi
    simp only
    omega
  · show List.Pairwise (· ≠ ·) _
    rw [List.pairwise_map, List.pairwise_flatten]
    refine ⟨fun r hr => ?_, ?_⟩
    · obtain ⟨wi, hwi, rfl⟩ := List.mem_map.1 hr
      have := hid wi hwi
      simp only [initRow]
      rw [List.pairwise_map]
      refine List.Pairwise.imp (fun {p p'} hpp => ?_) (List.pairwise_lt_range (n := k))
      have : ws.length * p < ws.length * p' := Nat.mul_lt_mul_of_pos_left hpp (by omega)
      simp only
      omega
    · simp only [rows0]
      rw [List.pairwise_map]
      have hlt : ws.zipIdx.Pairwise (fun a b => a.2 < b.2) := List.pairwise_map.1 (by
        rw [List.zipIdx_map_snd]; exact List.pairwise_lt_range')
      refine List.Pairwise.imp_of_mem (fun {wi wi'} hwi hwi' hlt x hx y hy => ?_) hlt
      have h1 := hid wi hwi
      have h2 := hid wi' hwi'
      obtain ⟨p, _, rfl⟩ := mem_initRow hx
      obtain ⟨p', _, rfl⟩ := mem_initRow hy
      -- equal ids would be equal modulo `ws.length`
      intro heq
      have e1 := Nat.mul_add_mod ws.length p wi.2
      have e2 := Nat.mul_add_mod ws.length p' wi'.2
      simp only at heq
      rw [heq, e2, Nat.mod_eq_of_lt h1, Nat.mod_eq_of_lt h2] at e1
      omega

theorem val_rows0 {M : Int} (n k : Nat) (ws : List Int)
    (hw : ∀ w ∈ ws, 0 ≤ w ∧ w ≤ M) : ∀ r ∈ rows0 n k ws, ValOk M r := by
  intro r hr
  obtain ⟨wi, hwi, rfl⟩ := List.mem_map.1 hr
  have hb := hw wi.1 (List.zipIdx_map_fst 0 ws ▸ List.mem_map_of_mem (f := Prod.fst) hwi)
  refine ⟨?_, fun s hs => ?_⟩
  · unfold Sorted
    simp only [initRow]
    rw [List.pairwise_map]
    refine List.Pairwise.imp (fun {p p'} hpp => ?_) (List.pairwise_lt_range (n := k))
    have : p' ≠ 0 := by omega
    simp only [this, if_false]
    split <;> omega
  · obtain ⟨p, _, rfl⟩ := mem_initRow hs
    simp only
    split <;> omega

theorem runWith_general_spec {sort : Row → Row} (hsort : SortOk sort) (p : List Nat) (ws : List Int)
    (k : Nat) (hk3 : 3 ≤ k) (hlen : ws.length = p.length) (hn : 2 ≤ p.length) :
    ∃ q final c, runWith sort p ws k = .ok q ∧ q.length = p.length ∧ (∀ i ∈ q, i < k) ∧
      final.length = k ∧ (∀ j (hj : j < final.length), load ws q j = final[j].1 + c) ∧
      ∀ M, (∀ w ∈ ws, 0 ≤ w ∧ w ≤ M) → ValOk M final := by
  have hk : 0 < k := Nat.lt_of_lt_of_le (Nat.succ_pos 2) hk3
  have hne : ws ≠ [] := List.ne_nil_of_length_pos (hlen ▸ Nat.lt_of_lt_of_le Nat.zero_lt_two hn)
  have hperm0 := perm_sortRows (rows0 ws.length k ws)
  have hlen0 : (sortRows (rows0 ws.length k ws)).length = ws.length :=
    hperm0.length_eq.trans (by rw [rows0, List.length_map, List.length_zipIdx])
  obtain ⟨final, new, hloop, okF, hval, hundo⟩ := loopK_spec hsort hk _ _ [] (Nat.le_refl _)
    (List.ne_nil_of_length_pos (hlen0.symm ▸ List.length_pos_iff.2 hne))
    (heapOk_perm hperm0 (heapOk_rows0 k ws))
  rw [List.append_nil] at hloop
  obtain ⟨hlF, idF⟩ := okF.1 final List.mem_cons_self
  -- the slots of the last row go to the parts `0 … k-1` in order
  obtain ⟨q0, hq0, hl0, hmap0, -⟩ := placeFinal_spec final 0 (List.replicate (k * ws.length) 0)
    (fun s hs => List.length_replicate ▸ idF s hs)
    (by have := okF.2; rwa [List.flatten_singleton] at this)
  rw [List.length_replicate] at hl0
  obtain ⟨q', c, hun, g', hsum⟩ := hundo q0
    ⟨hl0, fun r hr => by rw [List.mem_singleton.1 hr, hmap0, hlF, List.range_eq_range']⟩
  have hkn : p.length ≤ q'.length := g'.1 ▸ hlen ▸ Nat.le_mul_of_pos_left _ hk
  have hlq : (q'.take p.length).length = p.length := by
    rw [List.length_take, Nat.min_eq_left hkn]
  have hget : ∀ i (h : i < (q'.take p.length).length), asg q' i = (q'.take p.length)[i] :=
    fun i h => by rw [List.getElem_take]; exact asg_of_lt _
  refine ⟨q'.take p.length, final, c, runWith_general sort hlen hk3 hn ?_, hlq, fun i hi => ?_, hlF,
    fun j hj => ?_, fun M hw => hval M fun r hr => val_rows0 _ _ _ hw r (hperm0.mem_iff.1 hr)⟩
  · have h2 : placeFinal (List.replicate (k * ws.length) 0) final = some q0 := hq0
    simp only [rows0] at hloop
    simp only [kkGeneral, hloop, h2, hun, hlq, if_true]
  · -- element `t` owns slot `0` of its row, and that row is labelled bijectively
    obtain ⟨t, ht, rfl⟩ := List.mem_iff_getElem.1 hi
    have htn : t < ws.length := Nat.lt_of_lt_of_eq ht (hlq.trans hlen.symm)
    rw [← hget t ht]
    exact good_lt g' (hperm0.mem_iff.2 (mem_rows0 _ k ws htn)) (slot0_mem _ hk ws[t] t)
  · have e1 := wsum_zipIdx (asg q') j ws (q'.take p.length) 0 (hlq.trans hlen.symm) hget
    have e2 := wsum_rows (asg q') j ws.length k hk ws.zipIdx
    have e3 := wsum_perm (asg q') j hperm0.flatten
    have e4 := hsum j (hlF ▸ hj)
    have e5 : wsum (asg q0) j final = final[j].1 := wsum_range' (asg q0) final 0 hmap0 j hj
    rw [List.flatten_singleton] at e4
    rw [← e1, ← e2, ← e5, ← e4, e3]
    rfl

theorem insVal_eq (x : WI) (l : List WI) :
    insVal x l = insBy (fun a b => decide (a.1 ≤ b.1)) x l := by
  induction l with
  | nil => rfl
  | cons y ys ih =>
    simp only [insVal, insBy, ih, decide_eq_true_eq]
    by_cases h : y.1 < x.1
    · rw [if_pos h, if_neg (Int.not_le.2 h)]
    · rw [if_neg h, if_pos (Int.not_lt.1 h)]

theorem perm_insVal (x : WI) (l : List WI) : (insVal x l).Perm (x :: l) :=
  insVal_eq x l ▸ perm_insBy _ x l

theorem sorted_insVal {x : WI} {l : List WI} (h : Sorted l) : Sorted (insVal x l) :=
  insVal_eq x l ▸ pairwise_insBy (fun h₁ h₂ => Int.le_trans h₂ h₁)
    (fun _ h => of_decide_eq_true h) (fun _ h => Int.le_of_lt (Int.not_le.1 (mt decide_eq_true h))) h

theorem sortVal_aux (l acc : List WI) (h : Sorted acc) :
    (l.foldl (fun acc x => insVal x acc) acc).Perm (acc ++ l) ∧
      Sorted (l.foldl (fun acc x => insVal x acc) acc) := by
  induction l generalizing acc with
  | nil => simpa using h
  | cons x xs ih =>
    obtain ⟨hp, hs⟩ := ih (insVal x acc) (sorted_insVal h)
    exact ⟨(hp.trans ((perm_insVal x acc).append_right xs)).trans List.perm_middle.symm, hs⟩

theorem regimes (k n : Nat) : (k < 2 ∨ n < 2) ∨ (k = 2 ∧ 2 ≤ n) ∨ (3 ≤ k ∧ 2 ≤ n) := by
  omega

theorem runWith_band {sort : Row → Row} (hsort : SortOk sort) {p : List Nat} {ws : List Int}
    {k : Nat} {ids : List Nat} {M : Int} (hk : 2 ≤ k) (hM : 0 ≤ M)
    (hw : ∀ w ∈ ws, 0 ≤ w ∧ w ≤ M) (h : runWith sort p ws k = .ok ids) :
    ∃ lo, ∀ j < k, lo ≤ load ws ids j ∧ load ws ids j ≤ lo + M := by
  have hlen := runWith_len h
  rcases regimes k p.length with hc | ⟨rfl, hn⟩ | ⟨hk3, hn⟩
  · -- fewer than two weights: everything in part 0
    obtain rfl := Outcome.ok.inj ((runWith_small sort hlen hc).symm.trans h)
    refine ⟨0, fun j _ => ?_⟩
    rw [Int.zero_add]
    obtain _ | ⟨w, _ | ⟨_, _⟩⟩ := ws
    · exact ⟨Int.le_refl 0, hM⟩
    · obtain ⟨x, rfl⟩ := List.length_eq_one_iff.1 hlen.symm
      rw [List.map_cons, List.map_nil, load_cons, load_nil, Int.add_zero]
      split
      · exact hw w List.mem_cons_self
      · exact ⟨Int.le_refl 0, hM⟩
    · exact absurd (hlen ▸ hc.resolve_left (Nat.not_lt.2 hk)) (Nat.not_lt.2 (Nat.le_add_left 2 _))
  · obtain ⟨q, hq, -, -, hd⟩ := runWith_two_spec sort p ws hlen hn
    obtain rfl := Outcome.ok.inj (hq.symm.trans h)
    have h0 := residue_nonneg ws (hlen ▸ hn)
    have h1 := residue_le M hM ws hw
    refine ⟨load ws q 1, fun j hj => ?_⟩
    match j, hj with
    | 0, _ => omega
    | 1, _ => exact ⟨Int.le_refl _, Int.le_add_of_nonneg_right hM⟩
  · obtain ⟨q, final, c, hq, -, -, hlf, hl, hv⟩ := runWith_general_spec hsort p ws k hk3 hlen hn
    obtain rfl := Outcome.ok.inj (hq.symm.trans h)
    refine ⟨c, fun j hj => ?_⟩
    have := (hv M hw).2 _ (List.getElem_mem (hlf ▸ hj))
    rw [hl j (hlf ▸ hj), Int.add_comm c M]
    exact ⟨Int.le_add_of_nonneg_left this.1, Int.add_le_add_right this.2 c⟩

theorem load_map_zero_nil (p : List Nat) (j : Nat) : load [] p j = 0 := load_nil p j

end Coupe.Kk
